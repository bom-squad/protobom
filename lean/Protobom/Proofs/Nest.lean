/- The CycloneDX serializer: its stores (insert-or-replace association lists), the dictionary, the
   first pass, and the hierarchy builder (`nest`) on containment forests: whatever the order in
   which nodes are visited, every visited node ends up holding its complete subtree, and exactly
   the nodes that have a visited parent are marked as nested (`nest_spec`, `second_pass_spec`).
   `ForestDoc.ser_c0` is the serializer as a whole on such a document; every node other than the root lies in
   the complete subtree of a top-level component (`every_node_under_a_top`). -/
import Protobom.Proofs.CompTree
import Protobom.Proofs.Assoc
import Protobom.Proofs.EdgeLoops
import Protobom.Proofs.Forest

namespace Protobom.Cdx

/-! ### the stores (`setComp`, `addChildren`): insert-or-replace on association lists -/

theorem any_key_iff_lookup {κ β} [DecidableEq κ] (m : List (κ × β)) (k : κ) :
    m.any (·.1 = k) = true ↔ (m.lookup k).isSome = true :=
  (any_key_iff_mem m k).trans lookup_isSome_iff_key.symm

theorem lookup_isSome_of_mem (dict : List (String × Component)) (kv : String × Component) (h : kv ∈ dict) :
    (dict.lookup kv.1).isSome = true :=
  lookup_isSome_iff_key.mpr (List.mem_map.mpr ⟨kv, h, rfl⟩)

theorem setComp_keys (m : List (String × Component)) (k : String) (c : Component) :
    (setComp m k c).map (·.1) = if k ∈ m.map (·.1) then m.map (·.1) else m.map (·.1) ++ [k] :=
  upsert_keys m k _ (fun kv => by split <;> simp [*]) c

theorem addChildren_keys (m : List (String × List String)) (k : String) (vs : List String) :
    (addChildren m k vs).map (·.1) = if k ∈ m.map (·.1) then m.map (·.1) else m.map (·.1) ++ [k] :=
  upsert_keys m k _ (fun kv => by split <;> simp [*]) vs

theorem mem_setComp {m : List (String × Component)} {k : String} {c : Component} {kv : String × Component}
    (h : kv ∈ setComp m k c) : kv = (k, c) ∨ kv ∈ m := by
  unfold setComp at h
  split at h
  · obtain ⟨kv0, h0, rfl⟩ := List.mem_map.mp h
    split
    · exact Or.inl rfl
    · exact Or.inr h0
  · rcases List.mem_append.mp h with h | h
    · exact Or.inr h
    · exact Or.inl (List.mem_singleton.mp h)

theorem lookup_setComp (m : List (String × Component)) (k x : String) (c : Component)
    (hk : (m.lookup k).isSome = true) :
    (setComp m k c).lookup x = if x = k then some c else m.lookup x := by
  obtain ⟨c', hc'⟩ := Option.isSome_iff_exists.mp hk
  rw [setComp, if_pos ((any_key_iff_lookup m k).mpr hk), lookup_replace, hc']; rfl

/-! ### the dictionary -/

theorem dictOf_fold_keys (nodes : List Node) (d : List (String × Component)) :
    (nodes.foldl (fun d n => setComp d n.id (nodeToComponent n)) d).map (·.1) =
      addNew (d.map (·.1)) (nodes.map (·.id)) := by
  induction nodes generalizing d with
  | nil => rfl
  | cons n ns ih => rw [List.foldl_cons, ih, setComp_keys]; rfl

theorem dictOf_fold_mem (nodes : List Node) (d : List (String × Component)) :
    ∀ kv ∈ nodes.foldl (fun d n => setComp d n.id (nodeToComponent n)) d,
      kv ∈ d ∨ ∃ n ∈ nodes, kv = (n.id, nodeToComponent n) :=
  List.foldlRecOn (motive := fun m => ∀ kv ∈ m, kv ∈ d ∨ ∃ n ∈ nodes, kv = (n.id, nodeToComponent n)) nodes _
    (fun _ h => .inl h) fun _ ih n hn kv hkv => (mem_setComp hkv).elim (fun e => .inr ⟨n, hn, e⟩) (ih kv)

theorem dictOf_keys (nodes : List Node) : (dictOf nodes).map (·.1) = addNew [] (nodes.map (·.id)) :=
  dictOf_fold_keys nodes []

theorem dictOf_known (nodes : List Node) (k : String) :
    ((dictOf nodes).lookup k).isSome = true ↔ k ∈ nodes.map (·.id) :=
  lookup_isSome_iff_key.trans (by rw [dictOf_keys, mem_addNew]; exact or_iff_right List.not_mem_nil)

theorem dictOf_keys_nodup (nodes : List Node) : ((dictOf nodes).map (·.1)).Nodup :=
  dictOf_keys nodes ▸ addNew_nodup _ [] List.nodup_nil

theorem dictOf_entries (nodes : List Node) {x : String} {c : Component} (h : (dictOf nodes).lookup x = some c) :
    ∃ n ∈ nodes, n.id = x ∧ c = nodeToComponent n := by
  rcases dictOf_fold_mem nodes [] _ (mem_of_lookup h) with h | ⟨n, hn, e⟩
  · cases h
  · exact ⟨n, hn, (congrArg Prod.fst e).symm, congrArg Prod.snd e⟩

theorem nodeToComponent_shape (n : Node) : (nodeToComponent n).bomRef = n.id ∧ (nodeToComponent n).kids = [] := by
  simp [nodeToComponent, Component.bomRef, Component.kids]

/-- the initial component of an identifier, with a shape-correct default for unknown ones -/
def comp0 (dict : List (String × Component)) (x : String) : Component :=
  (dict.lookup x).getD (.mk x "" "" "" "" "" "" "" none [] [] none [])

theorem comp0_of_lookup {dict : List (String × Component)} {x : String} {c : Component} (h : dict.lookup x = some c) :
    comp0 dict x = c := by rw [comp0, h]; rfl

theorem comp0_shape (nodes : List Node) (x : String) :
    (comp0 (dictOf nodes) x).bomRef = x ∧ (comp0 (dictOf nodes) x).kids = [] := by
  cases h : (dictOf nodes).lookup x with
  | none => rw [comp0, h]; exact ⟨rfl, rfl⟩
  | some c =>
    obtain ⟨n, _, rfl, rfl⟩ := dictOf_entries nodes h
    rw [comp0_of_lookup h]; exact nodeToComponent_shape n

theorem comp0_of_mem (nodes : List Node) (hnd : (nodes.map (·.id)).Nodup) (n : Node) (hn : n ∈ nodes) :
    comp0 (dictOf nodes) n.id = nodeToComponent n := by
  obtain ⟨c, hc⟩ := Option.isSome_iff_exists.mp ((dictOf_known nodes n.id).mpr (List.mem_map_of_mem hn))
  obtain ⟨m, hm, e, rfl⟩ := dictOf_entries nodes hc
  rw [comp0_of_lookup hc, nodup_map_inj _ _ hnd hm hn e]

/-! ### the first pass -/

/-- the loop that collects the dependency targets of an edge fails exactly when some target is
    unknown: a repeated target is skipped before it is looked up, but it was looked up the first time -/
theorem depTargets_fold (known : String → Bool) : ∀ (ts acc : List String), (∀ a ∈ acc, known a = true) →
    ts.foldl (fun (a : Option (List String)) t =>
      a.bind fun ts => if t ∈ ts then some ts else if known t then some (ts ++ [t]) else none) (some acc) =
      if ts.all known then some (addNew acc ts) else none
  | [], _, _ => rfl
  | t :: ts, acc, h => by
    rw [List.foldl_cons, Option.bind_some, List.all_cons, addNew, List.foldl_cons]
    by_cases ht : t ∈ acc
    · rw [if_pos ht, if_pos ht, h t ht, Bool.true_and]; exact depTargets_fold known ts acc h
    · rw [if_neg ht, if_neg ht]
      by_cases hk : known t = true
      · rw [if_pos hk, hk, Bool.true_and]
        exact depTargets_fold known ts _ fun a ha =>
          (List.mem_append.mp ha).elim (h a) fun e => List.mem_singleton.mp e ▸ hk
      · rw [if_neg hk, Bool.eq_false_iff.mpr hk, Bool.false_and]
        exact List.recOn ts rfl fun _ _ ih => ih

theorem pass1_inv (known : String → Bool) (P : Pass1 → Prop) (h0 : P {})
    (hc : ∀ st (e : Edge), P st → known e.src = true → e.tos.all known = true →
      P { st with children := addChildren st.children e.src e.tos })
    (hd : ∀ st (e : Edge), P st → known e.src = true → e.tos.all known = true →
      P { st with deps := st.deps ++ [(e.src, addNew [] e.tos)] })
    (edges : List Edge) (p1 : Pass1) (h : pass1 known edges = .ok p1) : P p1 := by
  unfold pass1 at h
  refine List.foldlRecOn (motive := fun (acc : Outcome Pass1) => ∀ a, acc = .ok a → P a) edges _
    (fun a ha => by cases ha; exact h0) (fun acc hP e _ a ha => ?_) p1 h
  cases acc with
  | err => cases ha
  | panic s => cases ha
  | ok st =>
    have hst := hP st rfl
    dsimp only [Outcome.bind] at ha
    by_cases hk : known e.src = true
    · rw [hk, Bool.not_true, if_neg Bool.false_ne_true] at ha
      by_cases h5 : e.ty = 5  -- contains
      · rw [if_pos h5] at ha
        by_cases hall : e.tos.all known = true
        · rw [if_pos hall] at ha; cases ha; exact hc st e hst hk hall
        · rw [if_neg hall] at ha; cases ha
      · rw [if_neg h5] at ha
        by_cases h10 : e.ty = 10  -- dependsOn
        · rw [if_pos h10, depTargets_fold known e.tos [] (fun _ h => nomatch h)] at ha
          by_cases hall : e.tos.all known = true
          · rw [if_pos hall] at ha; cases ha; exact hd st e hst hk hall
          · rw [if_neg hall] at ha; cases ha
        · rw [if_neg h10] at ha; cases ha; exact hst
    · rw [Bool.eq_false_iff.mpr hk] at ha; cases ha

def childrenOf (p1 : Pass1) (id : String) : List String := (p1.children.lookup id).getD []

theorem pass1_children_known (known : String → Bool) (edges : List Edge) (p1 : Pass1)
    (h : pass1 known edges = .ok p1) (x : String) (hx : childrenOf p1 x ≠ []) : known x = true :=
  pass1_inv known (fun p => ∀ y ∈ p.children.map (·.1), known y = true) (fun y hy => nomatch hy)
    (fun st e hst hk _ y hy => by
      rw [addChildren_keys] at hy
      split at hy
      · exact hst y hy
      · exact (List.mem_append.mp hy).elim (hst y) fun h' => List.mem_singleton.mp h' ▸ hk)
    (fun _ _ hst _ _ => hst) edges p1 h x (lookup_isSome_iff_key.mp (by
      cases hl : p1.children.lookup x with
      | none => rw [childrenOf, hl] at hx; exact absurd rfl hx
      | some _ => rfl))

theorem pass1_deps_known (known : String → Bool) (edges : List Edge) (p1 : Pass1)
    (h : pass1 known edges = .ok p1) : ∀ st ∈ p1.deps, known st.1 = true ∧ ∀ t ∈ st.2, known t = true :=
  pass1_inv known (fun p => ∀ st ∈ p.deps, known st.1 = true ∧ ∀ t ∈ st.2, known t = true) (fun _ h => nomatch h)
    (fun _ _ hst _ _ => hst)
    (fun st e hst hk hts y hy => (List.mem_append.mp hy).elim (hst y) fun h' => by
      rw [List.mem_singleton.mp h']
      exact ⟨hk, fun t ht => List.all_eq_true.mp hts t (by simpa using (mem_addNew [] e.tos t).mp ht)⟩)
    edges p1 h

/-! ### the hierarchy builder `nest` -/

def nestBody (children : String → List String) (fuel : Nat) (id : String) (path : List String)
    (acc : NestSt × List Component) (t : String) : NestSt × List Component :=
  let st := acc.1
  if t ∈ id :: path ∨ t ∈ st.placed then acc
  else
    let st := { st with placed := t :: st.placed }
    let st := nest children fuel t (id :: path) st
    match st.comp t with
    | some c => (st, acc.2 ++ [c])
    | none => (st, acc.2)

theorem nest_zero (children : String → List String) (id : String) (path : List String) (st : NestSt) :
    nest children 0 id path st = st := rfl

theorem nest_succ (children : String → List String) (fuel : Nat) (id : String) (path : List String) (st : NestSt) :
    nest children (fuel + 1) id path st =
      if id ∈ st.built then st else
      let r := (children id).foldl (nestBody children fuel id path) ({ st with built := id :: st.built }, [])
      match r.1.comp id with
      | some c => { r.1 with comps := setComp r.1.comps id (c.withKids (c.kids ++ r.2)) }
      | none => r.1 := by
  rfl

/-- the component of `id` with its subtree nested, `fuel` levels deep; at `ht id + 1` levels (`T`) it is the complete subtree -/
def tree (children : String → List String) (c0 : String → Component) : Nat → String → Component
  | 0, id => c0 id
  | f + 1, id => (c0 id).withKids ((c0 id).kids ++ (children id).map (tree children c0 f))

def T (children : String → List String) (c0 : String → Component) (ht : String → Nat) (id : String) : Component :=
  tree children c0 (ht id + 1) id

theorem kids_withKids (c : Component) (ks : List Component) : (c.withKids ks).kids = ks := by
  cases c; rfl

theorem T_unfold (children : String → List String) (c0 : String → Component) (ht : String → Nat)
    (hlt : ∀ id t, t ∈ children id → ht t < ht id) (id : String) :
    T children c0 ht id = (c0 id).withKids ((c0 id).kids ++ (children id).map (T children c0 ht)) :=
  fuel_unfold children ht hlt (tree children c0) (fun g x => (c0 x).withKids ((c0 x).kids ++ (children x).map g))
    (fun _ _ => rfl) (fun _ _ _ h => by rw [List.map_congr_left h]) id

/-! ### the nesting pass (the serializer's second loop, over the nodes): invariant, transitions, `nest_spec` -/

/-- containment is a forest: children are strictly lower (no cycles), every node has at most one
    parent, no child is listed twice; `D` is the set of known identifiers, closed under children;
    `P0` are the identifiers marked as placed from the start (the root), which nobody contains -/
structure Forest (children : String → List String) (ht : String → Nat) (D : String → Prop) (P0 : List String) : Prop where
  lt : ∀ id t, t ∈ children id → ht t < ht id
  par : ∀ a b t, t ∈ children a → t ∈ children b → a = b
  nd : ∀ a, (children a).Nodup
  dom : ∀ id t, D id → t ∈ children id → D t
  p0 : ∀ id t, t ∈ children id → t ∉ P0

/-- the invariant of the nesting pass; `path` are the nodes whose children are being processed -/
structure Good (children : String → List String) (c0 : String → Component) (ht : String → Nat)
    (D : String → Prop) (P0 path : List String) (st : NestSt) : Prop where
  -- a built node that is not being processed holds its complete subtree, and all its children are marked as nested
  g1 : ∀ x, x ∈ st.built → x ∉ path → st.comp x = some (T children c0 ht x) ∧ ∀ t ∈ children x, t ∈ st.placed
  -- a known node that is not built, or is being processed, still holds its initial component
  g2 : ∀ x, D x → (x ∉ st.built ∨ x ∈ path) → st.comp x = some (c0 x)
  -- only `P0` and children of built nodes are marked
  g3 : ∀ t ∈ st.placed, t ∈ P0 ∨ ∃ p ∈ st.built, t ∈ children p
  g4 : ∀ a ∈ path, a ∈ st.built

structure NestPost (children : String → List String) (c0 : String → Component) (ht : String → Nat)
    (D : String → Prop) (P0 path : List String) (id : String) (st st' : NestSt) : Prop where
  good : Good children c0 ht D P0 path st'
  built_mono : ∀ x ∈ st.built, x ∈ st'.built
  placed_mono : ∀ x ∈ st.placed, x ∈ st'.placed
  built_id : id ∈ st'.built
  -- a newly marked node is a child of a newly built one: what keeps the later children of the caller unmarked
  frame : ∀ t ∈ st'.placed, t ∈ st.placed ∨ ∃ p ∈ st'.built, p ∉ st.built ∧ t ∈ children p
  comp_old : ∀ x ∈ st.built, st'.comp x = st.comp x
  comp_out : ∀ x, x ∉ st'.built → st'.comp x = st.comp x
  -- a newly built node is `id` or somebody's child: the root is never built
  built_src : ∀ x ∈ st'.built, x ∈ st.built ∨ x = id ∨ ∃ p, x ∈ children p

section

variable {children : String → List String} {c0 : String → Component} {ht : String → Nat}
  {D : String → Prop} {P0 path : List String} {id t : String} {st s s' : NestSt}

theorem NestPost.refl (hg : Good children c0 ht D P0 path st) (hb : id ∈ st.built) :
    NestPost children c0 ht D P0 path id st st :=
  ⟨hg, fun _ h => h, fun _ h => h, hb, fun _ h => .inl h, fun _ _ => rfl, fun _ _ => rfl, fun _ h => .inl h⟩

theorem NestPost.push (hg : Good children c0 ht D P0 path st) (hb : id ∉ st.built) :
    NestPost children c0 ht D P0 (id :: path) id st { st with built := id :: st.built } where
  good.g1 x hx hxp := hg.g1 x ((List.mem_cons.mp hx).resolve_left fun e => hxp (e ▸ List.mem_cons_self))
    fun h => hxp (List.mem_cons_of_mem _ h)
  good.g2 x hD hx := hg.g2 x hD <| hx.elim (fun h => .inl fun h' => h (List.mem_cons_of_mem _ h')) fun h =>
    (List.mem_cons.mp h).elim (fun e => .inl (e ▸ hb)) .inr
  good.g3 u hu := (hg.g3 u hu).imp_right fun ⟨p, hp, hc⟩ => ⟨p, List.mem_cons_of_mem _ hp, hc⟩
  good.g4 a ha := (List.mem_cons.mp ha).elim (fun e => e ▸ List.mem_cons_self) fun h => List.mem_cons_of_mem _ (hg.g4 a h)
  built_mono _ h := List.mem_cons_of_mem _ h
  placed_mono _ h := h
  built_id := List.mem_cons_self
  frame _ h := .inl h
  comp_old _ _ := rfl
  comp_out _ _ := rfl
  built_src _ hx := (List.mem_cons.mp hx).elim (.inr ∘ .inl) .inl

theorem Good.place (hg : Good children c0 ht D P0 (id :: path) s) (htc : t ∈ children id) :
    Good children c0 ht D P0 (id :: path) { s with placed := t :: s.placed } where
  g1 x hx hxp := (hg.g1 x hx hxp).imp_right fun h u hu => List.mem_cons_of_mem _ (h u hu)
  g2 := hg.g2
  g3 u hu := (List.mem_cons.mp hu).elim (fun e => .inr ⟨id, hg.g4 id List.mem_cons_self, e ▸ htc⟩) (hg.g3 u)
  g4 := hg.g4

/-- a child `t` of `id` handled: what the call for `t` guarantees, seen from the state in which `id` was entered -/
theorem NestPost.call (h : NestPost children c0 ht D P0 (id :: path) id st s) (hb : id ∉ st.built)
    (htc : t ∈ children id)
    (h' : NestPost children c0 ht D P0 (id :: path) t { s with placed := t :: s.placed } s') :
    NestPost children c0 ht D P0 (id :: path) id st s' where
  good := h'.good
  built_mono x hx := h'.built_mono x (h.built_mono x hx)
  placed_mono x hx := h'.placed_mono x (List.mem_cons_of_mem _ (h.placed_mono x hx))
  built_id := h'.built_mono id h.built_id
  frame u hu := (h'.frame u hu).elim
    (fun hu => (List.mem_cons.mp hu).elim (fun e => .inr ⟨id, h'.built_mono id h.built_id, hb, e ▸ htc⟩)
      fun hu => (h.frame u hu).imp_right fun ⟨p, hp, hn, hc⟩ => ⟨p, h'.built_mono p hp, hn, hc⟩)
    fun ⟨p, hp, hn, hc⟩ => .inr ⟨p, hp, fun hps => hn (h.built_mono p hps), hc⟩
  comp_old x hx := (h'.comp_old x (h.built_mono x hx)).trans (h.comp_old x hx)
  comp_out x hx := (h'.comp_out x hx).trans (h.comp_out x fun hx' => hx (h'.built_mono x hx'))
  built_src x hx := (h'.built_src x hx).elim (h.built_src x) fun hx' =>
    .inr (.inr (hx'.elim (fun e => ⟨id, e ▸ htc⟩) fun h => h))

theorem NestPost.pop (h : NestPost children c0 ht D P0 (id :: path) id st s) (hb : id ∉ st.built) (hp : id ∉ path)
    (hk : ∀ t ∈ children id, t ∈ s.placed) (hc : (s.comp id).isSome = true) :
    NestPost children c0 ht D P0 path id st { s with comps := setComp s.comps id (T children c0 ht id) } :=
  have hcomp : ∀ x, NestSt.comp { s with comps := setComp s.comps id (T children c0 ht id) } x =
      if x = id then some (T children c0 ht id) else s.comp x := fun x => lookup_setComp _ _ x _ hc
  have hne := fun x (hx : x ≠ id) => (hcomp x).trans (if_neg hx)
  { good.g1 := fun x hx hxp => by
      by_cases hxi : x = id
      · subst hxi; exact ⟨(hcomp x).trans (if_pos rfl), hk⟩
      · exact (hne x hxi).symm ▸ h.good.g1 x hx fun hm => (List.mem_cons.mp hm).elim hxi hxp
    good.g2 := fun x hD hx =>
      (hne x fun e => hx.elim (fun hn => hn (e ▸ h.built_id)) fun hm => hp (e ▸ hm)).trans
        (h.good.g2 x hD (hx.imp_right (List.mem_cons_of_mem _)))
    good.g3 := h.good.g3
    good.g4 := fun a ha => h.good.g4 a (List.mem_cons_of_mem _ ha)
    built_mono := h.built_mono
    placed_mono := h.placed_mono
    built_id := h.built_id
    frame := h.frame
    comp_old := fun x hx => (hne x fun e => hb (e ▸ hx)).trans (h.comp_old x hx)
    comp_out := fun x hx => (hne x fun e => hx (e ▸ h.built_id)).trans (h.comp_out x hx)
    built_src := h.built_src }

end

theorem nest_spec (children : String → List String) (c0 : String → Component) (ht : String → Nat)
    (D : String → Prop) (P0 : List String) (F : Forest children ht D P0) :
    ∀ (fuel : Nat) (id : String) (path : List String) (st : NestSt),
      Good children c0 ht D P0 path st → D id → ht id < fuel → id ∉ path → (∀ a ∈ path, ht id < ht a) →
      NestPost children c0 ht D P0 path id st (nest children fuel id path st) := by
  intro fuel
  induction fuel with
  | zero => intro id path st _ _ h; omega
  | succ fuel ih =>
    intro id path st hg hD hfuel hpath hpathht
    rw [nest_succ]
    split
    · exact .refl hg ‹_›
    · rename_i hb
      -- the loop, over any children of `id` that are not placed yet
      have loop : ∀ (ts : List String) (acc : NestSt × List Component), ts.Nodup →
          (∀ t ∈ ts, t ∈ children id ∧ t ∉ acc.1.placed) →
          NestPost children c0 ht D P0 (id :: path) id st acc.1 →
          let r := ts.foldl (nestBody children fuel id path) acc
          NestPost children c0 ht D P0 (id :: path) id st r.1 ∧ r.2 = acc.2 ++ ts.map (T children c0 ht) ∧
            ∀ u, u ∈ ts ∨ u ∈ acc.1.placed → u ∈ r.1.placed := by
        intro ts
        induction ts with
        | nil => exact fun acc _ _ h => ⟨h, (List.append_nil _).symm, fun u hu => hu.resolve_left List.not_mem_nil⟩
        | cons t ts iht =>
          intro acc hnd hts hinv
          obtain ⟨htc, htp⟩ := hts t List.mem_cons_self
          obtain ⟨hnt, hnd⟩ := List.nodup_cons.mp hnd
          have hts := fun u hu => hts u (List.mem_cons_of_mem t hu)
          have hlt := F.lt id t htc
          have hlow : ∀ a ∈ id :: path, ht t < ht a := fun a ha =>
            (List.mem_cons.mp ha).elim (· ▸ hlt) fun ha => Nat.lt_trans hlt (hpathht a ha)
          have htpath : t ∉ id :: path := fun hm => Nat.lt_irrefl _ (hlow t hm)
          have hpost := ih t (id :: path) _ (hinv.good.place htc) (F.dom id t hD htc) (by omega) htpath hlow
          have hbody : nestBody children fuel id path acc t =
              (nest children fuel t (id :: path) { acc.1 with placed := t :: acc.1.placed },
                acc.2 ++ [T children c0 ht t]) := by
            simp only [nestBody, if_neg (not_or.mpr ⟨htpath, htp⟩), (hpost.good.g1 t hpost.built_id htpath).1]
          rw [List.foldl_cons, hbody]
          -- a later child is still not placed: it has no parent but `id`, and is not listed twice
          obtain ⟨h1, h2, h3⟩ := iht (_, _) hnd
            (fun u hu => ⟨(hts u hu).1, fun hup => (hpost.frame u hup).elim
              (fun h => (List.mem_cons.mp h).elim (fun e => hnt (e ▸ hu)) (hts u hu).2)
              fun ⟨p, _, hn, hc⟩ => hn (F.par p id u hc (hts u hu).1 ▸ hinv.built_id)⟩)
            (hinv.call hb htc hpost)
          exact ⟨h1, h2.trans (List.append_assoc ..), fun u hu => h3 u <| (hu.elim
            (fun hu => (List.mem_cons.mp hu).symm.imp_right (· ▸ List.mem_cons_self))
            fun hu => .inr (List.mem_cons_of_mem _ hu)).imp_right (hpost.placed_mono u)⟩
      -- before the loop no child of `id` is placed: its only parent is not built
      obtain ⟨hfin, hkids, hpl⟩ := loop (children id) ({ st with built := id :: st.built }, []) (F.nd id)
        (fun t htc => ⟨htc, fun hp => (hg.g3 t hp).elim (F.p0 id t htc)
          fun ⟨p, hpb, hpc⟩ => hb (F.par p id t hpc htc ▸ hpb)⟩) (.push hg hb)
      have hcid := hfin.good.g2 id hD (.inr List.mem_cons_self)
      simp only
      rw [hcid]
      simp only
      rw [hkids, List.nil_append, ← T_unfold children c0 ht F.lt id]
      exact hfin.pop hb hpath (fun t htc => hpl t (.inl htc)) (by rw [hcid]; rfl)

/-- the driver loop of the nesting pass, every node except the root a starting point: the root is
    never built, since nobody contains it, and every other node of the list is -/
theorem visit_spec (children : String → List String) (c0 : String → Component) (ht : String → Nat)
    (D : String → Prop) (root : String) (F : Forest children ht D [root]) (fuel : Nat) :
    ∀ (nodes : List Node) (st : NestSt), Good children c0 ht D [root] [] st → root ∉ st.built →
      (∀ n ∈ nodes, D n.id ∧ ht n.id < fuel) →
      let st' := nodes.foldl (fun st n => if n.id = root then st else nest children fuel n.id [] st) st
      Good children c0 ht D [root] [] st' ∧ root ∉ st'.built ∧ (∀ x ∈ st.placed, x ∈ st'.placed) ∧
        ∀ x, x ∈ st.built ∨ (x ≠ root ∧ x ∈ nodes.map (·.id)) → x ∈ st'.built := by
  intro nodes
  induction nodes with
  | nil => exact fun st hg hr _ => ⟨hg, hr, fun _ h => h, fun x h => h.elim id fun h => nomatch h.2⟩
  | cons m ms ih =>
    intro st hg hr hids
    have hms := fun n hn => hids n (List.mem_cons_of_mem _ hn)
    rw [List.foldl_cons]
    by_cases hm : m.id = root
    · rw [if_pos hm]
      obtain ⟨a, b, c, d⟩ := ih st hg hr hms
      exact ⟨a, b, c, fun x hx => d x <| hx.imp_right fun ⟨h1, h2⟩ =>
        ⟨h1, (List.mem_cons.mp h2).resolve_left fun e => h1 (e.trans hm)⟩⟩
    · rw [if_neg hm]
      have hpost := nest_spec children c0 ht D [root] F fuel m.id [] st hg (hids m List.mem_cons_self).1
        (hids m List.mem_cons_self).2 List.not_mem_nil (fun _ h => nomatch h)
      obtain ⟨a, b, c, d⟩ := ih _ hpost.good (fun h => (hpost.built_src root h).elim hr fun h =>
        h.elim (fun e => hm e.symm) fun ⟨p, hc⟩ => F.p0 p root hc List.mem_cons_self) hms
      exact ⟨a, b, fun x hx => c x (hpost.placed_mono x hx), fun x hx => d x <| hx.elim
        (fun h => .inl (hpost.built_mono x h)) fun ⟨h1, h2⟩ =>
          (List.mem_cons.mp h2).elim (fun e => .inl (e ▸ hpost.built_id)) fun h => .inr ⟨h1, h⟩⟩

/-- nested: the root, and what a known node other than the root contains. The top-level components
    are the known identifiers that are not nested. -/
def Nested (dict : List (String × Component)) (children : String → List String) (root x : String) : Prop :=
  x = root ∨ ∃ p, p ≠ root ∧ (dict.lookup p).isSome = true ∧ x ∈ children p

/-- the nesting pass on a containment forest; `nodes` is any list that covers the dictionary, so
    nothing depends on the order of the visits -/
theorem second_pass_spec (children : String → List String) (ht : String → Nat) (root : String)
    (dict : List (String × Component)) (fuel : Nat) (nodes : List Node) (c0 : String → Component)
    (hc0 : ∀ x c, dict.lookup x = some c → c0 x = c)
    (F : Forest children ht (fun x => (dict.lookup x).isSome = true) [root])
    (hch : ∀ p, children p ≠ [] → (dict.lookup p).isSome = true)
    (hids : ∀ n ∈ nodes, (dict.lookup n.id).isSome = true ∧ ht n.id < fuel)
    (hall : ∀ x, (dict.lookup x).isSome = true → x ∈ nodes.map (·.id)) :
    let st := nodes.foldl (fun st n => if n.id = root then st else nest children fuel n.id [] st)
      { placed := [root], built := [], comps := dict }
    (∀ x, x ∈ st.placed ↔ Nested dict children root x) ∧
    (dict.filter (fun kv => kv.1 ∉ st.placed)).filterMap (fun kv => st.comp kv.1) =
      (dict.filter (fun kv => kv.1 ∉ st.placed)).map (fun kv => T children c0 ht kv.1) := by
  intro st
  obtain ⟨hg, hroot_nb, hpm, hbuilt⟩ := visit_spec children c0 ht _ root F fuel nodes
    { placed := [root], built := [], comps := dict }
    ⟨fun _ h => (nomatch h), fun x hx _ => (by
      obtain ⟨c, h⟩ := Option.isSome_iff_exists.mp hx
      rw [NestSt.comp, h, hc0 x c h]), fun _ h => .inl h, fun _ h => (nomatch h)⟩ (fun h => nomatch h) hids
  -- a known node other than the root was a starting point: it holds its subtree, its children are placed
  have hdone := fun x hD hne => hg.g1 x (hbuilt x (.inr ⟨hne, hall x hD⟩)) List.not_mem_nil
  have hplaced : ∀ x, x ∈ st.placed ↔ Nested dict children root x := fun x =>
    ⟨fun hx => (hg.g3 x hx).imp List.mem_singleton.mp fun ⟨p, hp, hc⟩ =>
      ⟨p, fun e => hroot_nb (e ▸ hp), hch p (List.ne_nil_of_mem hc), hc⟩,
     fun h => h.elim (fun e => e ▸ hpm root List.mem_cons_self) fun ⟨p, hpr, hpd, hc⟩ => (hdone p hpd hpr).2 x hc⟩
  refine ⟨hplaced, (filterMap_congr' fun kv hkv => ?_).trans (congrFun List.filterMap_eq_map _)⟩
  rw [List.mem_filter, decide_eq_true_eq] at hkv
  exact (hdone kv.1 (lookup_isSome_of_mem dict kv hkv.1) fun e => hkv.2 ((hplaced kv.1).mpr (.inl e))).1

/-! ### the serializer on a containment forest -/

/-- the hypotheses of the forest theorems: a document with one root element whose containment, as
    the first pass records it, is a forest below known nodes -/
structure ForestDoc (d : Document) (md : Metadata) (nl : NodeList) (root : String) (rootNode : Node)
    (lcs : List Lifecycle) (p1 : Pass1) (ht : String → Nat) : Prop where
  hmd : d.metadata = some md
  hnl : d.nodeList = some nl
  hroots : nl.roots = [root]
  hroot : nl.getNodeByID root = some rootNode
  hrid : rootNode.id = root
  hlc : serCDX.mapLifecycles md.docTypes = .ok lcs
  hp1 : pass1 (fun id => (dictOf nl.nodes).any (·.1 = id)) nl.edges = .ok p1
  F : Forest (childrenOf p1) ht (fun x => ((dictOf nl.nodes).lookup x).isSome = true) [root]
  -- the fuel `serCDX` gives `nest` (Model/Cdx.lean): enough for any chain of distinct known nodes
  hht : ∀ x, ht x < (dictOf nl.nodes).length + 2

/-- the metadata component: the root node's component, named after the document when it has no
    name of its own -/
def rootComp (md : Metadata) (rootNode : Node) : Component :=
  if md.name ≠ "" ∧ (nodeToComponent rootNode).name = ""
  then (nodeToComponent rootNode).withName md.name else nodeToComponent rootNode

theorem rootComp_shape (md : Metadata) (n : Node) : (rootComp md n).bomRef = n.id ∧ (rootComp md n).kids = [] := by
  unfold rootComp
  split
  · cases h : nodeToComponent n
    exact h ▸ nodeToComponent_shape n
  · exact nodeToComponent_shape n

/-- `c0` is any family of initial components that agrees with the dictionary: `serCDX_forest` takes
    one default component for unknown identifiers, `ForestDoc.ser` the shape-correct `comp0` -/
theorem ForestDoc.ser_c0 {d : Document} {md : Metadata} {nl : NodeList} {root : String} {rootNode : Node}
    {lcs : List Lifecycle} {p1 : Pass1} {ht : String → Nat} (H : ForestDoc d md nl root rootNode lcs p1 ht)
    (c0 : String → Component) (hc0 : ∀ x c, (dictOf nl.nodes).lookup x = some c → c0 x = c) :
    ∃ (b : Bom) (placed : List String), serCDX d = .ok b ∧
      (∀ x, x ∈ placed ↔ Nested (dictOf nl.nodes) (childrenOf p1) root x) ∧
      b.components = clearAutoL (((dictOf nl.nodes).filter (fun kv => decide (kv.1 ∉ placed))).map
        (fun kv => T (childrenOf p1) c0 ht kv.1)) ∧
      b.deps = p1.deps ∧ b.metaComponent = some (rootComp md rootNode) := by
  obtain ⟨hmd, hnl, hroots, hroot, hrid, hlc, hp1, F, hht⟩ := H
  have hne : nl.roots.isEmpty = false := by rw [hroots]; rfl
  have hlen : ¬ nl.roots.length > 1 := by rw [hroots]; simp
  have hhead : nl.roots.head! = root := by rw [hroots]; rfl
  obtain ⟨hplaced, htop⟩ := second_pass_spec (childrenOf p1) ht root (dictOf nl.nodes) ((dictOf nl.nodes).length + 2)
    nl.nodes c0 hc0 F
    (fun p hp => (any_key_iff_lookup _ _).mp (pass1_children_known _ _ _ hp1 p hp))
    (fun n hn => ⟨(dictOf_known nl.nodes n.id).mpr (List.mem_map_of_mem hn), hht n.id⟩)
    (fun x hx => (dictOf_known nl.nodes x).mp hx)
  -- what `serCDX` computes on this path, with the state `st` of the nesting pass named
  have hser : ∃ (b : Bom) (st : NestSt), serCDX d = .ok b ∧
      st = nl.nodes.foldl (fun st n => if n.id = root then st else
        nest (childrenOf p1) ((dictOf nl.nodes).length + 2) n.id [] st)
        { placed := [rootNode.id], built := [], comps := dictOf nl.nodes } ∧
      b.components = clearAutoL (((dictOf nl.nodes).filter (fun kv => kv.1 ∉ st.placed)).filterMap
        (fun kv => st.comp kv.1)) ∧
      b.deps = p1.deps ∧ b.metaComponent = some (rootComp md rootNode) := by
    unfold serCDX
    simp only [hmd, hnl, hne, hlen, hhead, hroot, hlc, hp1, Outcome.bind, if_false, Bool.false_eq_true]
    exact ⟨_, _, rfl, rfl, rfl, rfl, rfl⟩
  obtain ⟨b, st, hb1, rfl, hb2, hb3, hb4⟩ := hser
  rw [hrid] at hb2
  exact ⟨b, _, hb1, hplaced, hb2.trans (congrArg clearAutoL htop), hb3, hb4⟩

theorem serCDX_forest {d : Document} {md : Metadata} {nl : NodeList} {root : String} {rootNode : Node}
    {lcs : List Lifecycle} {p1 : Pass1} {ht : String → Nat} (H : ForestDoc d md nl root rootNode lcs p1 ht)
    (dflt : Component) :
    ∃ (b : Bom) (placed : List String), serCDX d = .ok b ∧
      (∀ x, x ∈ placed ↔ Nested (dictOf nl.nodes) (childrenOf p1) root x) ∧
      b.components = clearAutoL (((dictOf nl.nodes).filter (fun kv => decide (kv.1 ∉ placed))).map
        (fun kv => T (childrenOf p1) (fun x => ((dictOf nl.nodes).lookup x).getD dflt) ht kv.1)) ∧
      b.deps = p1.deps ∧ b.metaComponent = some (rootComp md rootNode) :=
  H.ser_c0 _ fun x c h => by rw [h]; rfl

/-! ### every node lies in the subtree of a top-level one -/

section
variable (children : String → List String) (c0 : String → Component) (ht : String → Nat)

theorem T_sub (hlt : ∀ id t, t ∈ children id → ht t < ht id) (x : String) :
    ∀ t, x ∈ sub children ht t → Sub (T children c0 ht x) (T children c0 ht t) :=
  forest_ind children ht hlt fun t ih hx => by
    rcases (mem_sub children ht hlt).mp hx with rfl | ⟨y, hy, hxy⟩
    · exact Sub.refl _
    · refine Sub.kid ?_ (ih y hy hxy)
      rw [T_unfold children c0 ht hlt t, kids_withKids]
      exact List.mem_append.mpr (Or.inr (List.mem_map_of_mem hy))

variable (D : String → Prop) (root : String) (F : Forest children ht D [root]) (bound : Nat) (hb : ∀ x, ht x < bound)
include F hb

theorem top_above (x : String) (hD : D x) (hxr : x ≠ root) :
    ∃ t, D t ∧ ¬ (t = root ∨ ∃ p, p ≠ root ∧ D p ∧ t ∈ children p) ∧ x ∈ sub children ht t := by
  -- upwards: by induction on the distance of the height from its bound
  obtain ⟨n, hn⟩ : ∃ n, bound ≤ ht x + n := ⟨bound, Nat.le_add_left ..⟩
  induction n generalizing x with
  | zero => have := hb x; omega
  | succ n ih =>
    by_cases hnx : x = root ∨ ∃ p, p ≠ root ∧ D p ∧ x ∈ children p
    · obtain ⟨p, hpr, hpD, hpc⟩ := hnx.resolve_left hxr
      obtain ⟨t, htD, htn, hsub⟩ := ih p hpD hpr (by have := F.lt p x hpc; omega)
      exact ⟨t, htD, htn, sub_closed children ht F.lt t p x hsub hpc⟩
    · exact ⟨x, hD, hnx, mem_sub_self children ht x⟩

/-- in a containment forest every known node other than the root sits, with its complete subtree,
    inside the complete subtree of some node that is not nested (a top-level component) -/
theorem every_node_under_a_top (nested : String → Prop)
    (hn : ∀ x, nested x ↔ x = root ∨ ∃ p, p ≠ root ∧ D p ∧ x ∈ children p) :
    ∀ (n : Nat) (x : String), bound ≤ ht x + n → D x → x ≠ root →
      ∃ t, D t ∧ ¬ nested t ∧ Sub (T children c0 ht x) (T children c0 ht t) := fun _ x _ hD hxr =>
  let ⟨t, htD, htn, hsub⟩ := top_above children ht D root F bound hb x hD hxr
  ⟨t, htD, fun h => htn ((hn t).mp h), T_sub children c0 ht F.lt x t hsub⟩

end

end Protobom.Cdx
