/- Well-formedness (`NodeList.WF`): the graph-editing operations and `getNodesByPurlType` keep it; `nodeSiblings`,
   `nodeGraph` and `nodeDescendants` return it, together with normal form, whatever the source list is; so every
   instruction of the register machine of C08 keeps a register file well-formed (`exec_wf`). -/
import Protobom.Proofs.Intersect

namespace Protobom

def EdgesIn (ids : List String) (es : List Edge) : Prop :=
  ∀ e ∈ es, e.src ∈ ids ∧ ∀ d ∈ e.tos, d ∈ ids

/-- an edge of a cleaned list has a target (empty ones are dropped), which vouches for its source -/
theorem cleanEdgesL_closed (ids : List String) (es : List Edge) : EdgesIn ids (cleanEdgesL ids es) := by
  intro e he
  have rel := fun d hd => (cleanEdgesL_rel ids es e.src e.ty d).mp ⟨e, he, rfl, rfl, hd⟩
  obtain ⟨d, hd⟩ := List.exists_mem_of_ne_nil e.tos (by
    rw [cleanEdgesL_eq] at he; simpa using (List.mem_filter.mp he).2)
  exact ⟨(rel d hd).2.1, fun d hd => (rel d hd).2.2⟩

theorem EdgesIn.mono {ids ids' : List String} {es : List Edge} (h : EdgesIn ids es)
    (hsub : ∀ x ∈ ids, x ∈ ids') : EdgesIn ids' es :=
  fun e he => ⟨hsub _ (h e he).1, fun d hd => hsub _ ((h e he).2 d hd)⟩

theorem EdgesIn.append {ids : List String} {es fs : List Edge} (h1 : EdgesIn ids es) (h2 : EdgesIn ids fs) :
    EdgesIn ids (es ++ fs) := fun e he => by
  rcases List.mem_append.mp he with h | h
  · exact h1 e h
  · exact h2 e h

theorem EdgesIn.modifyFirst {ids : List String} {es : List Edge} (h : EdgesIn ids es) (p : Edge → Bool)
    (g : Edge → List String) (hg : ∀ e ∈ es, ∀ d ∈ g e, d ∈ ids) :
    EdgesIn ids (modifyFirst p (fun e => { e with tos := g e }) es) := fun e he => by
  rcases mem_modifyFirst p _ es e he with h1 | ⟨x, hx, _, rfl⟩
  · exact h e h1
  · exact ⟨(h x hx).1, hg x hx⟩

theorem edgesIn_merge {ids : List String} {acc : List Edge} (h : EdgesIn ids acc) {e2 : Edge}
    (h2 : e2.src ∈ ids ∧ ∀ d ∈ e2.tos, d ∈ ids) (g : List String → List String)
    (hg : ∀ ts d, d ∈ g ts → d ∈ ts ∨ d ∈ e2.tos) {c : Prop} [Decidable c] :
    EdgesIn ids (mergeEdge g c acc e2) := by
  unfold mergeEdge
  split
  · exact h.modifyFirst _ _ fun e he d hd => (hg _ d hd).elim ((h e he).2 d) (h2.2 d)
  · exact h.append fun e he => List.mem_singleton.mp he ▸ h2

theorem wf_of_parts (nl : NodeList) (hnd : nl.ids.Nodup) (he : EdgesIn nl.ids nl.edges)
    (hr : ∀ r ∈ nl.roots, r ∈ nl.ids) : nl.WF :=
  ⟨hnd, fun e h => (he e h).1, fun e h => (he e h).2, hr⟩

theorem NodeList.WF.edgesIn {nl : NodeList} (h : nl.WF) : EdgesIn nl.ids nl.edges :=
  fun e he => ⟨h.src e he, h.dst e he⟩

theorem cleanEdges_wf (nl : NodeList) (hnd : nl.ids.Nodup) (hr : ∀ r ∈ nl.roots, r ∈ nl.ids) :
    nl.cleanEdges.WF :=
  wf_of_parts _ hnd (cleanEdgesL_closed _ _) hr

theorem Sem.wf {r : NodeList} {I R E} (h : Sem r I R E) (hnd : r.ids.Nodup)
    (he : EdgesIn r.ids r.edges) (hr : ∀ x, R x → I x) : r.WF :=
  wf_of_parts r hnd he fun x hx => (h.ids x).mpr (hr x ((h.roots x).mp hx))

theorem union_wf (a b : NodeList) (ha : a.WF) (hb : b.WF) : (a.union b).WF :=
  (union_sem a b).wf (union_ids_eq a b ▸ mergedIds_nodup ha.nodup hb.nodup)
    (cleanEdgesL_closed _ _) fun x h => h.imp (ha.roots x) (hb.roots x)

theorem add_wf (a b : NodeList) (ha : a.WF) (hb : b.WF) : (a.add b).WF :=
  (add_sem a b).wf (add_ids_eq a b ▸ mergedIds_nodup ha.nodup hb.nodup)
    (cleanEdgesL_closed _ _) fun x h => h.imp (ha.roots x) (hb.roots x)

theorem intersect_wf (a b : NodeList) : (a.intersect b).WF :=
  (intersect_sem a b).wf (intersect_ids_nodup a b) (cleanEdgesL_closed _ _) fun _ h => h.1

theorem removeNodes_wf (nl : NodeList) (rm : List String) (h : nl.WF) : (nl.removeNodes rm).WF :=
  (removeNodes_sem nl rm).wf (h.nodup.sublist (List.filter_sublist.map _))
    (cleanEdgesL_closed _ _) fun x hx => hx.imp_left (h.roots x)

theorem graft_wf {a r : NodeList} {bids : List String} (ha : a.WF) (hb : bids.Nodup)
    (hroots : r.roots = a.roots) (hids : r.ids = mergedIds a.ids bids)
    (hedges : ∀ ids, (∀ x ∈ a.ids, x ∈ ids) → (∀ x ∈ bids, x ∈ ids) → EdgesIn ids r.edges) : r.WF := by
  have hmem : ∀ x, x ∈ r.ids ↔ x ∈ a.ids ∨ x ∈ bids := hids ▸ mem_mergedIds a.ids bids
  exact wf_of_parts r (hids ▸ mergedIds_nodup ha.nodup hb)
    (hedges _ (fun x hx => (hmem x).mpr (.inl hx)) fun x hx => (hmem x).mpr (.inr hx))
    (hroots ▸ fun x hx => (hmem x).mpr (.inl (ha.roots x hx)))

theorem relateNodeAtID_wf (nl : NodeList) (n : Node) (at_ : String) (ty : Int) (r : NodeList)
    (h : nl.WF) (hr : nl.relateNodeAtID n at_ ty = some r) : r.WF := by
  obtain ⟨hat, hroots, hids, hedges⟩ := relateNodeAtID_some hr
  refine graft_wf h (List.pairwise_singleton _ _) hroots hids fun ids h1 h2 => ?_
  rw [hedges]
  exact edgesIn_merge (h.edgesIn.mono h1) (e2 := ⟨ty, at_, [n.id]⟩) ⟨h1 _ hat, h2⟩ (· ++ [n.id])
    fun _ _ => List.mem_append.mp

theorem relateEdges_edgesIn (ids : List String) (keys0 : List Key) (acc es : List Edge)
    (hacc : EdgesIn ids acc) (hes : EdgesIn ids es) :
    EdgesIn ids (es.foldl (relateEdgeStep keys0) acc) :=
  List.foldlRecOn (motive := EdgesIn ids) es _ hacc fun _ h e he =>
    edgesIn_merge h (hes e he) _ fun ts d => (mem_addNew ts e.tos d).mp

theorem relateNodeListAtID_wf (a b : NodeList) (at_ : String) (ty : Int) (r : NodeList)
    (ha : a.WF) (hb : b.WF) (hr : a.relateNodeListAtID b at_ ty = some r) : r.WF := by
  obtain ⟨hat, hroots, hids, hedges⟩ := relateNodeListAtID_some hr
  refine graft_wf ha hb.nodup hroots hids fun ids h1 h2 => ?_
  rw [hedges]
  exact relateEdges_edgesIn _ _ _ _ (edgesIn_merge (ha.edgesIn.mono h1) (e2 := ⟨ty, at_, b.roots⟩)
    ⟨h1 _ hat, fun d hd => h2 d (hb.roots d hd)⟩ (addNew · b.roots) fun ts d => (mem_addNew ts b.roots d).mp)
    (hb.edgesIn.mono h2)

theorem nodesOf_ids (nl : NodeList) (l : List String) :
    (nl.nodesOf l).map (·.id) = l.filter (· ∈ nl.ids) := by
  unfold NodeList.nodesOf
  induction l with
  | nil => rfl
  | cons x xs ih =>
    by_cases hx : x ∈ nl.ids
    · obtain ⟨n, hn, hni, _⟩ := getNodeByID_some nl x hx
      simp [hn, hni, hx, ih]
    · simp [getNodeByID_none nl x hx, hx, ih]

theorem mem_nodesOf_ids (nl : NodeList) (l : List String) (x : String) :
    x ∈ (nl.nodesOf l).map (·.id) ↔ x ∈ l ∧ x ∈ nl.ids := by
  rw [nodesOf_ids, List.mem_filter, decide_eq_true_iff]

theorem nodesOf_mem (nl : NodeList) (l : List String) (n : Node) (h : n ∈ nl.nodesOf l) :
    n ∈ nl.nodes ∧ n.id ∈ l := by
  unfold NodeList.nodesOf at h
  obtain ⟨i, hi, hn⟩ := List.mem_filterMap.mp h
  obtain ⟨h1, h2⟩ := getNodeByID_id nl i n hn
  exact ⟨h2, h1 ▸ hi⟩

theorem nodesOf_nodup (nl : NodeList) (l : List String) (h : l.Nodup) :
    ((nl.nodesOf l).map (·.id)).Nodup := by
  rw [nodesOf_ids]; exact h.sublist List.filter_sublist

theorem empty_wf_normal : ({} : NodeList).WF ∧ ({} : NodeList).Normal :=
  ⟨⟨List.nodup_nil, by simp, by simp, by simp⟩, by simp, by simp⟩

/-- the shape of every extraction result: the first nodes with the identifiers `l`, some edges,
    some of `l` as roots, cleaned. Well-formed and normal whatever the source list is. -/
theorem extract_wf_normal (nl : NodeList) (l roots : List String) (es : List Edge) (hl : l.Nodup)
    (hr : ∀ r ∈ roots, r ∈ l ∧ r ∈ nl.ids) :
    let r := ({ nodes := nl.nodesOf l, edges := es, roots := roots } : NodeList).cleanEdges
    r.WF ∧ r.Normal :=
  ⟨cleanEdges_wf _ (nodesOf_nodup nl l hl) fun x hx => (mem_nodesOf_ids nl l x).mpr (hr x hx),
   cleanEdgesL_normal _ _⟩

theorem nodeSiblings_some {nl : NodeList} {id : String} {r : NodeList}
    (h : nl.nodeSiblings id = some r) : id ≠ "" ∧
      (id ∈ nl.ids → r =
        ({ nodes := nl.nodesOf (id :: (nl.edges.filter (·.src = id)).flatMap (·.tos)).eraseDups,
           edges := nl.edges.filter (·.src = id), roots := [id] } : NodeList).cleanEdges) ∧
      (id ∉ nl.ids → r = {}) := by
  unfold NodeList.nodeSiblings at h
  split at h
  · cases h
  · refine ⟨‹_›, ?_⟩; split at h <;> cases h <;> simp [*]

theorem nodeSiblings_wf_normal (nl : NodeList) (id : String) (r : NodeList)
    (hr : nl.nodeSiblings id = some r) : r.WF ∧ r.Normal := by
  obtain ⟨-, h1, h2⟩ := nodeSiblings_some hr
  by_cases hin : id ∈ nl.ids
  · exact h1 hin ▸ extract_wf_normal nl _ [id] _ (nodup_eraseDups _) (by simp [hin])
  · exact h2 hin ▸ empty_wf_normal

theorem reach_nodup (nl : NodeList) (bnd stack seen : List String) (h : seen.Nodup) :
    (nl.reach bnd stack seen).Nodup := by
  fun_induction NodeList.reach nl bnd stack seen with
  | case1 seen => exact h
  | case2 x stack seen hc ih => exact ih h
  | case3 x stack seen hc ih => exact ih (List.nodup_cons.mpr ⟨fun hx => hc (Or.inl hx), h⟩)

theorem reach_sup (nl : NodeList) (bnd stack seen : List String) (x : String) (h : x ∈ seen) :
    x ∈ nl.reach bnd stack seen := by
  fun_induction NodeList.reach nl bnd stack seen with
  | case1 seen => exact h
  | case2 y stack seen hc ih => exact ih h
  | case3 y stack seen hc ih => exact ih (List.mem_cons_of_mem _ h)

theorem nodeGraph_some {nl : NodeList} {id : String} {r : NodeList} (h : nl.nodeGraph id = some r) :
    id ∈ nl.ids ∧ r = ({ nodes := nl.nodesOf (nl.connected id),
                         edges := nl.edges.filter (·.src ∈ nl.connected id),
                         roots := [id] } : NodeList).cleanEdges := by
  unfold NodeList.nodeGraph at h
  split at h <;> cases h
  exact ⟨‹_›, rfl⟩

theorem nodeGraph_wf_normal (nl : NodeList) (id : String) (r : NodeList)
    (hr : nl.nodeGraph id = some r) : r.WF ∧ r.Normal := by
  obtain ⟨hin, rfl⟩ := nodeGraph_some hr
  exact extract_wf_normal nl _ [id] _ (reach_nodup nl _ _ _ (by simp))
    (by simpa [hin, NodeList.connected] using reach_sup nl nl.roots (nl.succ id) [id] id (by simp))

theorem descStep_nodup (nl : NodeList) (start : String) (st : List String × List String) (n : String)
    (h : st.1.Nodup) : (nl.descStep start st n).1.Nodup := by
  unfold NodeList.descStep
  split
  · exact h
  · rename_i hn
    split <;> exact List.nodup_cons.mpr ⟨hn, h⟩

theorem descLoop_nodup (nl : NodeList) (start : String) (d : Nat) (frontier seen : List String)
    (h : seen.Nodup) : (nl.descLoop start d frontier seen).Nodup := by
  induction d generalizing frontier seen with
  | zero => exact h
  | succ d ih =>
    exact ih _ _ (List.foldlRecOn (motive := fun st => st.1.Nodup) frontier _ h
      fun st hst n _ => descStep_nodup nl start st n hst)

theorem nodeDescendants_wf_normal (nl : NodeList) (id : String) (depth : Int) :
    (nl.nodeDescendants id depth).WF ∧ (nl.nodeDescendants id depth).Normal := by
  unfold NodeList.nodeDescendants
  split
  · rename_i hin
    exact extract_wf_normal nl _ _ _ (descLoop_nodup nl id _ _ _ List.nodup_nil) fun x hx => by
      split at hx
      · rename_i h
        rw [List.mem_singleton.mp hx]; exact ⟨h, hin⟩
      · cases hx
  · exact empty_wf_normal

theorem getNodesByPurlType_wf (nl : NodeList) (t : String) (h : nl.ids.Nodup) :
    (nl.getNodesByPurlType t).WF :=
  cleanEdges_wf _ (h.sublist (List.filter_sublist.map _)) fun _ hx =>
    (List.filter_sublist.map _).subset hx

theorem reg_wf (regs : List NodeList) (h : ∀ r ∈ regs, r.WF) (i : Nat) : (reg regs i).WF := by
  unfold reg
  rw [List.getD_eq_getElem?_getD]
  cases hi : regs[i]? with
  | none => exact empty_wf_normal.1
  | some r => exact h r (List.mem_of_getElem? hi)

theorem set_wf (regs : List NodeList) (h : ∀ r ∈ regs, r.WF) (i : Nat) (x : NodeList) (hx : x.WF) :
    ∀ r ∈ regs.set i x, r.WF := by
  intro r hr
  rcases List.mem_or_eq_of_mem_set hr with h1 | h1
  · exact h r h1
  · exact h1 ▸ hx

theorem setSome_wf (regs : List NodeList) (h : ∀ r ∈ regs, r.WF) (i : Nat) (o : Option NodeList)
    (ho : ∀ x, o = some x → x.WF) :
    ∀ r ∈ (match o with | some x => regs.set i x | none => regs), r.WF := by
  cases o with
  | none => exact h
  | some x => exact set_wf regs h i x (ho x rfl)

theorem exec_wf (regs : List NodeList) (h : ∀ r ∈ regs, r.WF) (i : Instr) : ∀ r ∈ exec regs i, r.WF := by
  cases i with
  | union dst a b => exact set_wf regs h _ _ (union_wf _ _ (reg_wf regs h a) (reg_wf regs h b))
  | intersect dst a b => exact set_wf regs h _ _ (intersect_wf _ _)
  | add a b => exact set_wf regs h _ _ (add_wf _ _ (reg_wf regs h a) (reg_wf regs h b))
  | removeNodes a ids => exact set_wf regs h _ _ (removeNodes_wf _ _ (reg_wf regs h a))
  | relateNode a n at_ ty =>
    exact setSome_wf regs h _ _ fun r => relateNodeAtID_wf _ n at_ ty r (reg_wf regs h a)
  | relateList a b at_ ty =>
    exact setSome_wf regs h _ _ fun r =>
      relateNodeListAtID_wf _ _ at_ ty r (reg_wf regs h a) (reg_wf regs h b)
  | nodeGraph dst a id => exact setSome_wf regs h _ _ fun r hr => (nodeGraph_wf_normal _ id r hr).1
  | nodeSiblings dst a id => exact setSome_wf regs h _ _ fun r hr => (nodeSiblings_wf_normal _ id r hr).1
  | nodeDescendants dst a id depth => exact set_wf regs h _ _ (nodeDescendants_wf_normal _ id depth).1
  | purlType dst a t => exact set_wf regs h _ _ (getNodesByPurlType_wf _ t (reg_wf regs h a).nodup)

end Protobom
