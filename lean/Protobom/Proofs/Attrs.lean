/- Reading a node's attributes by position in the schema: the field names of the regenerated schema are
   distinct, so the attribute called `f` is the entry at the row that carries `f`; a node built row by row from
   the schema holds at `f` what was built for it; the typed readers of both translators on a known attribute. -/
import Protobom.Model.Spdx

namespace Protobom.Spdx
open Protobom Gen

theorem schema_keys_nodup : (Schema.nodeAttrs.map (·.1)).Nodup := by decide +kernel

/-- `h` is checked by `rfl` on the one row, where evaluating `attrIdx f` compares `f` with every row before it. -/
theorem attrIdx_at {i : Nat} {f : String} {k : Kind} (h : Schema.nodeAttrs[i]? = some (f, k)) : attrIdx f = some i := by
  have hu := schema_keys_nodup
  unfold attrIdx
  generalize Schema.nodeAttrs = l at h hu
  induction l generalizing i with
  | nil => cases h
  | cons x xs ih =>
    rw [List.map_cons, List.nodup_cons] at hu
    rw [List.findIdx?_cons]
    cases i with
    | zero => cases h; simp
    | succ j =>
      -- names are unique: the row before is not called `f`
      have hx : x.1 ≠ f := fun e => hu.1 (List.mem_map.mpr ⟨_, List.mem_of_getElem? h, e.symm⟩)
      simp [hx, ih h hu.2]

theorem Node.attr_at (n : Node) (i : Nat) {f : String} {k : Kind} (h : Schema.nodeAttrs[i]? = some (f, k)) :
    n.attr f = n.attrs[i]? := by
  rw [Node.attr, attrIdx_at h]

theorem schema_at (i : Nat) {fk : String × Kind} (h : Schema.nodeAttrs[i]? = some fk) : fk ∈ Schema.nodeAttrs :=
  List.mem_of_getElem? h

theorem attr_of_schema_map (g : String → Kind → Val) (id : String) (t : Int) (f : String) (k : Kind)
    (h : (f, k) ∈ Schema.nodeAttrs) :
    ({ id := id, typ := t, attrs := Schema.nodeAttrs.map (fun fk => g fk.1 fk.2) } : Node).attr f = some (g f k) := by
  obtain ⟨i, hi⟩ := List.getElem?_of_mem h
  rw [Node.attr_at _ i hi, List.getElem?_map, hi]
  rfl

section
variable {n : Node} {f : String}
theorem Node.str_of_attr {s} (h : n.attr f = some (.str s)) : Node.str n f = s := by simp [Node.str, Node.strAttr, h]
theorem Node.strs_of_attr {l} (h : n.attr f = some (.strs l)) : Node.strs n f = l := by simp [Node.strs, h]
theorem Node.enums_of_attr {l} (h : n.attr f = some (.enums l)) : Node.enums n f = l := by simp [Node.enums, h]
theorem Node.refs_of_attr {l} (h : n.attr f = some (.refs l)) : Node.refs n f = l := by simp [Node.refs, h]
theorem Node.persons_of_attr {l} (h : n.attr f = some (.persons l)) : Node.persons n f = l := by simp [Node.persons, h]
theorem Node.mapAttr_of_attr {m} (h : n.attr f = some (.imap m)) : n.mapAttr f = m := by simp [Node.mapAttr, h]
theorem Node.dateSecs_of_attr {d} (h : n.attr f = some (dateVal d)) : Node.dateSecs n f = d := by
  cases d <;> simp [Node.dateSecs, h, dateVal]
end

end Protobom.Spdx
