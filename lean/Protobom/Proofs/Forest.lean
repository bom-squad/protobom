/- Containment forests on identifiers: `children` with a height that drops along it. Recursion on
   fuel along `children` unfolds once the fuel exceeds the height (`fuel_unfold`, which serves the
   preorder `sub` here and the complete subtree `T` in Nest.lean); `forest_ind` is induction along
   containment; under unique parents the subtrees containing a node form a chain, so the preorders
   of an antichain are disjoint (`flatMap_sub_nodup`). -/
import Protobom.Proofs.Lists

namespace Protobom.Cdx
open Protobom

/-- identifiers of the subtree of `x` in document order, `f` levels deep -/
def pre (children : String → List String) : Nat → String → List String
  | 0, x => [x]
  | f + 1, x => x :: (children x).flatMap (pre children f)

/-- the subtree of `x`, with enough fuel -/
def sub (children : String → List String) (ht : String → Nat) (x : String) : List String := pre children (ht x + 1) x

theorem mem_sub_self (children : String → List String) (ht : String → Nat) (x : String) : x ∈ sub children ht x :=
  List.mem_cons_self

section
variable (children : String → List String) (ht : String → Nat)
variable (hlt : ∀ id t, t ∈ children id → ht t < ht id)
include hlt

theorem forest_ind {P : String → Prop} (h : ∀ x, (∀ t ∈ children x, P t) → P x) : ∀ x, P x := by
  have : ∀ n x, ht x < n → P x := by
    intro n
    induction n with
    | zero => intro x hx; omega
    | succ n ih => exact fun x hx => h x fun t htc => ih t (by have := hlt x t htc; omega)
  exact fun x => this _ x (Nat.lt_succ_self _)

/-- a recursion `F` on fuel whose step looks at the children only: with fuel above the height, one
    step of it is the step over the same recursion at the children, each with its own fuel -/
theorem fuel_unfold {α} (F : Nat → String → α) (step : (String → α) → String → α)
    (hF : ∀ f x, F (f + 1) x = step (F f) x)
    (hstep : ∀ g g' x, (∀ t ∈ children x, g t = g' t) → step g x = step g' x) (x : String) :
    F (ht x + 1) x = step (fun t => F (ht t + 1) t) x := by
  have stable : ∀ x f f', ht x < f → ht x < f' → F f x = F f' x :=
    forest_ind children ht hlt fun x ih f f' h1 h2 =>
      match f, f', h1, h2 with
      | f + 1, f' + 1, h1, h2 => by
        rw [hF, hF]
        exact hstep _ _ x fun t htc => ih t htc f f' (by have := hlt x t htc; omega) (by have := hlt x t htc; omega)
  rw [hF]
  exact hstep _ _ x fun t htc => stable t _ _ (hlt x t htc) (Nat.lt_succ_self _)

theorem sub_unfold (x : String) : sub children ht x = x :: (children x).flatMap (sub children ht) :=
  fuel_unfold children ht hlt (pre children) (fun g x => x :: (children x).flatMap g) (fun _ _ => rfl)
    (fun _ _ _ h => congrArg _ (flatMap_congr' h)) x

theorem mem_sub {x z : String} : z ∈ sub children ht x ↔ z = x ∨ ∃ y ∈ children x, z ∈ sub children ht y := by
  rw [sub_unfold children ht hlt, List.mem_cons, List.mem_flatMap]

theorem sub_ht : ∀ x z, z ∈ sub children ht x → ht z ≤ ht x :=
  forest_ind children ht hlt fun x ih z hz => by
    rcases (mem_sub children ht hlt).mp hz with rfl | ⟨y, hy, hzy⟩
    · exact Nat.le_refl _
    · have := ih y hy z hzy; have := hlt x y hy; omega

theorem sub_parent : ∀ x z, z ∈ sub children ht x → z ≠ x → ∃ p, p ∈ sub children ht x ∧ z ∈ children p :=
  forest_ind children ht hlt fun x ih z hz hne => by
    rcases (mem_sub children ht hlt).mp hz with rfl | ⟨y, hy, hzy⟩
    · exact absurd rfl hne
    · by_cases hzy' : z = y
      · exact ⟨x, List.mem_cons_self, hzy' ▸ hy⟩
      · obtain ⟨p, hp, hc⟩ := ih y hy z hzy hzy'
        exact ⟨p, (mem_sub children ht hlt).mpr (.inr ⟨y, hy, hp⟩), hc⟩

theorem sub_mem_dom (D : String → Prop) (hdom : ∀ id t, D id → t ∈ children id → D t) :
    ∀ x y, D x → y ∈ sub children ht x → D y :=
  forest_ind children ht hlt fun x ih y hx hy => by
    rcases (mem_sub children ht hlt).mp hy with rfl | ⟨z, hz, hyz⟩
    · exact hx
    · exact ih z hz y (hdom x z hx hz) hyz

theorem sub_closed : ∀ x p t, p ∈ sub children ht x → t ∈ children p → t ∈ sub children ht x :=
  forest_ind children ht hlt fun x ih p t hp htc => by
    rcases (mem_sub children ht hlt).mp hp with rfl | ⟨y, hy, hpy⟩
    · exact (mem_sub children ht hlt).mpr (.inr ⟨t, htc, List.mem_cons_self⟩)
    · exact (mem_sub children ht hlt).mpr (.inr ⟨y, hy, ih y hy p t hpy htc⟩)

variable (hpar : ∀ a b t, t ∈ children a → t ∈ children b → a = b)
include hpar

theorem sub_chain : ∀ a z b, z ∈ sub children ht a → z ∈ sub children ht b →
    a ∈ sub children ht b ∨ b ∈ sub children ht a :=
  forest_ind children ht hlt fun a ih z b hza hzb => by
    rcases (mem_sub children ht hlt).mp hza with rfl | ⟨y, hy, hzy⟩
    · exact .inl hzb
    · refine (ih y hy z b hzy hzb).elim (fun h => ?_) fun h => .inr ((mem_sub children ht hlt).mpr (.inr ⟨y, hy, h⟩))
      -- `y`, a child of `a`, lies in the subtree of `b`: as its root, or below its parent `a`
      by_cases hyb : y = b
      · exact .inr ((mem_sub children ht hlt).mpr (.inr ⟨y, hy, hyb ▸ List.mem_cons_self⟩))
      · obtain ⟨p, hp, hc⟩ := sub_parent children ht hlt b y h hyb
        exact .inl (hpar p a y hc hy ▸ hp)

theorem flatMap_sub_nodup {l : List String} (hl : l.Nodup) (hs : ∀ t ∈ l, (sub children ht t).Nodup)
    (hanti : ∀ a ∈ l, ∀ b ∈ l, a ≠ b → a ∉ sub children ht b) : (l.flatMap (sub children ht)).Nodup :=
  nodup_flatMap _ _ hl hs fun a ha b hb hne z hza hzb =>
    (sub_chain children ht hlt hpar a z b hza hzb).elim (hanti a ha b hb hne) (hanti b hb a ha (Ne.symm hne))

theorem sub_nodup (hnd : ∀ a, (children a).Nodup) : ∀ x, (sub children ht x).Nodup :=
  forest_ind children ht hlt fun x ih => by
    rw [sub_unfold children ht hlt]
    refine List.nodup_cons.mpr ⟨fun hmem => ?_,
      flatMap_sub_nodup children ht hlt hpar (hnd x) ih fun a ha b hb hab hmem => ?_⟩
    · obtain ⟨y, hy, hxy⟩ := List.mem_flatMap.mp hmem
      have h1 := sub_ht children ht hlt y x hxy
      have h2 := hlt x y hy
      omega
    · -- were one child in the subtree of another, its parent `x` would be there too
      obtain ⟨p, hp, hc⟩ := sub_parent children ht hlt b a hmem hab
      have h1 := sub_ht children ht hlt b p hp
      have h2 := hlt x b hb
      rw [hpar p x a hc ha] at h1; omega

variable (B : Nat) (hB : ∀ x, ht x < B)
include hB

theorem sub_proper_lt (x z : String) (hz : z ∈ sub children ht x) (hne : z ≠ x) : ht z < ht x := by
  obtain ⟨p, hp, hc⟩ := sub_parent children ht hlt x z hz hne
  have h1 := hlt p z hc
  have h2 := sub_ht children ht hlt x p hp
  omega

end

end Protobom.Cdx
