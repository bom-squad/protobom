/- Node, edge and node-list equality: what each compares, and that none sees the order of set-valued input. -/
import Protobom.Proofs.Flat
import Protobom.Proofs.Intersect

namespace Protobom
open Gen

theorem Node.equal_iff {a b : Node} : a.equal b = true ↔ a.flat = b.flat := decide_eq_true_iff

theorem Edge.equal_iff {a b : Edge} : a.equal b = true ↔ a.flat = b.flat := decide_eq_true_iff

inductive AttrsPermEq : List Val → List Val → Prop
  | nil : AttrsPermEq [] []
  | cons {v w vs ws} : Val.PermEq v w → AttrsPermEq vs ws → AttrsPermEq (v :: vs) (w :: ws)

/-- same identifier and kind, every attribute with the same content up to the order of
    set-valued collections and map entries -/
structure Node.PermEq (a b : Node) : Prop where
  id : a.id = b.id
  typ : a.typ = b.typ
  attrs : AttrsPermEq a.attrs b.attrs

theorem zip_flatMap_perm (fs : List (String × Kind)) (as bs : List Val) (h : AttrsPermEq as bs) :
    ((fs.zip as).flatMap (fun ((f, _), v) => attrPairs f v)).Perm
      ((fs.zip bs).flatMap (fun ((f, _), v) => attrPairs f v)) := by
  induction h generalizing fs with
  | nil => simp
  | cons hv _ ih =>
    cases fs with
    | nil => simp
    | cons f fs =>
      simp only [List.zip_cons_cons, List.flatMap_cons]
      exact (attrPairs_permEq f.1 hv).append (ih fs)

theorem flat_permEq {a b : Node} (h : Node.PermEq a b) : a.flat = b.flat := by
  unfold Node.flat Node.flatPairs
  rw [h.id, h.typ]
  apply congrArg
  apply sortStrings_perm
  exact (List.Perm.refl _).append (zip_flatMap_perm _ _ _ h.attrs)

theorem edge_flat_perm {e f : Edge} (hs : e.src = f.src) (ht : e.ty = f.ty) (hp : e.tos.Perm f.tos) :
    e.flat = f.flat := by
  unfold Edge.flat
  rw [hs, ht, sortStrings_perm hp]

inductive EdgeListEq : List Edge → List Edge → Prop
  | nil : EdgeListEq [] []
  | cons {e f es fs} : e.src = f.src → e.ty = f.ty → e.tos.Perm f.tos → EdgeListEq es fs →
      EdgeListEq (e :: es) (f :: fs)

theorem edgeListEq_flat {es fs : List Edge} (h : EdgeListEq es fs) : es.map Edge.flat = fs.map Edge.flat := by
  induction h with
  | nil => rfl
  | cons hs ht hp _ ih => simp only [List.map_cons, edge_flat_perm hs ht hp, ih]

theorem edgeListEq_length {es fs : List Edge} (h : EdgeListEq es fs) : es.length = fs.length := by
  simpa using congrArg List.length (edgeListEq_flat h)

theorem nodeIndex_keys (H : String → String) (nl : NodeList) :
    (nodeIndex H nl).map (·.1) = nl.ids.eraseDups :=
  map_fst_filterMap nl.indexed (fun _ n => H n.flat) _ fun x hx =>
    let ⟨_, hn, _⟩ := indexed_some nl x (by simpa using hx); hn ▸ rfl

theorem nodeIndex_nodup (H : String → String) (nl : NodeList) : ((nodeIndex H nl).map (·.1)).Nodup := by
  rw [nodeIndex_keys]; exact nodup_eraseDups _

theorem nodeIndex_lookup (H : String → String) (nl : NodeList) (k : String) :
    (nodeIndex H nl).lookup k = (nl.indexed k).map (fun n => H n.flat) := by
  apply Option.ext
  intro v
  rw [lookup_eq_some_iff_mem (nodeIndex_nodup H nl), nodeIndex, mem_filterMap_key]
  refine and_iff_right_of_imp fun h => Classical.byContradiction fun hk => ?_
  rw [indexed_none nl k (by simpa using hk)] at h
  cases h

theorem equalWith_iff (H : String → String) (a b : NodeList) :
    NodeList.equalWith H a b = true ↔
      (a.edges.length = b.edges.length ∧ a.nodes.length = b.nodes.length ∧ a.roots.length = b.roots.length) ∧
      sortStrings a.roots = sortStrings b.roots ∧
      sortStrings (a.edges.map Edge.flat) = sortStrings (b.edges.map Edge.flat) ∧
      ∀ k, (a.indexed k).map (fun n => H n.flat) = (b.indexed k).map (fun n => H n.flat) := by
  simp only [← nodeIndex_lookup, lookup_eq_iff_length_incl (nodeIndex_nodup H a) (nodeIndex_nodup H b),
    NodeList.equalWith, Bool.and_eq_true, decide_eq_true_eq, List.all_eq_true, and_assoc]

theorem indexed_perm (a b : NodeList) (hn : a.nodes.Perm b.nodes) (hnd : a.ids.Nodup) (k : String) :
    a.indexed k = b.indexed k := by
  have hndb : b.ids.Nodup := (hn.map (fun (x : Node) => x.id)).nodup_iff.mp hnd
  by_cases hk : k ∈ a.ids
  · obtain ⟨p, hp, rfl⟩ := List.mem_map.mp hk
    rw [indexed_eq_of_nodup a hnd p hp, indexed_eq_of_nodup b hndb p (hn.mem_iff.mp hp)]
  · have hkb : k ∉ b.ids := fun h => hk ((hn.map (fun (x : Node) => x.id)).mem_iff.mpr h)
    rw [indexed_none a k hk, indexed_none b k hkb]

end Protobom
