/- Refinement lemmas for `Union`, `Add` and the two `Relate…AtID`: node identifiers, roots and the edge relation. -/
import Protobom.Proofs.EdgeLoops

namespace Protobom

@[simp] theorem update_id (n m : Node) : (n.update m).id = n.id := rfl
@[simp] theorem augment_id (n m : Node) : (n.augment m).id = n.id := rfl
@[simp] theorem update_typ (n m : Node) : (n.update m).typ = n.typ := rfl
@[simp] theorem augment_typ (n m : Node) : (n.augment m).typ = n.typ := rfl

theorem mergeNodes_cons (f : Node → Node → Node) (ids0 : List String) (st : List Node × List Node)
    (n : Node) (ns : List Node) :
    mergeNodes f ids0 st (n :: ns) = mergeNodes f ids0
      (if n.id ∈ ids0 then (modifyLast (·.id = n.id) (fun p => f p n) st.1, st.2)
       else (st.1, st.2 ++ [n])) ns := rfl

theorem mergeNodes_fst_ids (f : Node → Node → Node) (hf : ∀ n m, (f n m).id = n.id)
    (ids0 : List String) (st : List Node × List Node) (ns2 : List Node) :
    (mergeNodes f ids0 st ns2).1.map (·.id) = st.1.map (·.id) := by
  induction ns2 generalizing st with
  | nil => rfl
  | cons n ns ih =>
    rw [mergeNodes_cons, ih]
    split
    · exact map_modifyLast _ _ _ (fun x => hf x n) _
    · rfl

theorem mergeNodes_snd (f : Node → Node → Node) (ids0 : List String) (st : List Node × List Node)
    (ns2 : List Node) :
    (mergeNodes f ids0 st ns2).2 = st.2 ++ ns2.filter (·.id ∉ ids0) := by
  induction ns2 generalizing st with
  | nil => exact (List.append_nil _).symm
  | cons n ns ih =>
    rw [mergeNodes_cons, ih]
    by_cases h : n.id ∈ ids0 <;> simp [h]

/-- `xs`, then what `ys` adds to it: how `Union` and `Add` extend the identifiers and the roots of
    the receiver, the two `Relate…AtID` its identifiers, and `Intersect` the targets of an edge -/
def mergedIds (xs ys : List String) : List String := xs ++ ys.filter (· ∉ xs)

theorem mem_mergedIds (xs ys : List String) (x : String) : x ∈ mergedIds xs ys ↔ x ∈ xs ∨ x ∈ ys := by
  simp only [mergedIds, List.mem_append, List.mem_filter, decide_eq_true_eq]
  exact ⟨fun h => h.imp_right And.left,
    fun h => h.elim .inl fun h => (Classical.em (x ∈ xs)).imp id fun hx => ⟨h, hx⟩⟩

theorem mergedIds_nodup {xs ys : List String} (h1 : xs.Nodup) (h2 : ys.Nodup) : (mergedIds xs ys).Nodup :=
  List.nodup_append.mpr ⟨h1, h2.sublist List.filter_sublist,
    fun _ ha _ hb hab => of_decide_eq_true (List.mem_filter.mp hb).2 (hab ▸ ha)⟩

theorem map_id_merged (base ns2 : List Node) :
    (base ++ ns2.filter (·.id ∉ base.map (·.id))).map (·.id) = mergedIds (base.map (·.id)) (ns2.map (·.id)) := by
  rw [List.map_append, mergedIds, List.filter_map]; rfl

theorem mergeNodes_ids (f : Node → Node → Node) (hf : ∀ n m, (f n m).id = n.id) (base ns2 : List Node) :
    ((mergeNodes f (base.map (·.id)) (base, []) ns2).1 ++
      (mergeNodes f (base.map (·.id)) (base, []) ns2).2).map (·.id) =
      mergedIds (base.map (·.id)) (ns2.map (·.id)) := by
  rw [← map_id_merged, List.map_append, List.map_append, mergeNodes_fst_ids f hf, mergeNodes_snd, List.nil_append]

theorem any_key_iff (acc : List Edge) (k : Key) :
    acc.any (fun e => decide (e.key = k)) = true ↔ ∃ e ∈ acc, e.key = k := by
  simp [List.any_eq_true]

theorem unionEdges_rel (base es2 : List Edge) (s t d) :
    HasEdgeL (unionEdges base es2) s t d ↔ HasEdgeL base s t d ∨ HasEdgeL es2 s t d :=
  hasEdgeL_foldl id unionEdgeStep (fun _ => True) (fun acc e _ => ⟨trivial,
    hasEdgeL_merge _ e (mem_addNew · e.tos) _ acc (any_key_iff acc e.key).mp⟩) es2 base trivial s t d

theorem addEdges_rel (base es2 : List Edge) (s t d) :
    HasEdgeL (addEdges base es2) s t d ↔ HasEdgeL base s t d ∨ HasEdgeL es2 s t d := by
  -- the first component keeps the keys of `base`, so the stale test finds its edge there
  have := hasEdgeL_foldl (fun st => st.1 ++ st.2) (addEdgeStep (base.map Edge.key))
    (fun st => st.1.map Edge.key = base.map Edge.key) (fun st e hk => by
      unfold addEdgeStep
      split
      · rename_i hin
        rw [← hk, List.mem_map] at hin
        refine ⟨(keys_modifyFirst ..).trans hk, fun s t d => ?_⟩
        rw [hasEdgeL_append, hasEdgeL_append, hasEdgeL_single, or_right_comm,
          hasEdgeL_modifyFirst e.key (· ++ e.tos) e.tos (fun _ _ => List.mem_append), and_iff_right hin]
      · exact ⟨hk, fun s t d => by rw [hasEdgeL_append, hasEdgeL_append, hasEdgeL_append, or_assoc]⟩)
    es2 (base, []) rfl s t d
  rwa [List.append_nil] at this

theorem union_ids_eq (a b : NodeList) : (a.union b).ids = mergedIds a.ids b.ids :=
  mergeNodes_ids _ update_id a.nodes b.nodes

theorem add_ids_eq (a b : NodeList) : (a.add b).ids = mergedIds a.ids b.ids :=
  mergeNodes_ids _ augment_id a.nodes b.nodes

theorem union_sem (a b : NodeList) : Sem (a.union b) (fun x => x ∈ a.ids ∨ x ∈ b.ids)
    (fun x => x ∈ a.roots ∨ x ∈ b.roots) (fun s t d => a.HasEdge s t d ∨ b.HasEdge s t d) :=
  Sem.clean (nl := { nodes := unionNodes a.nodes b.nodes, edges := unionEdges a.edges b.edges,
                     roots := mergedIds a.roots b.roots })
    (union_ids_eq a b ▸ mem_mergedIds a.ids b.ids) (mem_mergedIds _ _)
    (unionEdges_rel _ _)

theorem add_sem (a b : NodeList) : Sem (a.add b) (fun x => x ∈ a.ids ∨ x ∈ b.ids)
    (fun x => x ∈ a.roots ∨ x ∈ b.roots) (fun s t d => a.HasEdge s t d ∨ b.HasEdge s t d) :=
  Sem.clean (nl := { nodes := addNodes a.nodes b.nodes, edges := addEdges a.edges b.edges,
                     roots := mergedIds a.roots b.roots })
    (add_ids_eq a b ▸ mem_mergedIds a.ids b.ids) (mem_mergedIds _ _)
    (addEdges_rel _ _)

theorem add_empty (b : NodeList) :
    (({} : NodeList).add b).nodes = b.nodes ∧ (({} : NodeList).add b).roots = b.roots ∧
    ∀ s t d, (({} : NodeList).add b).HasEdge s t d ↔ b.HasEdge s t d ∧ s ∈ b.ids ∧ d ∈ b.ids := by
  refine ⟨?_, ?_, fun s t d => ?_⟩
  · show (mergeNodes _ _ _ _).1 ++ (mergeNodes _ _ _ _).2 = _
    rw [mergeNodes_snd, List.map_eq_nil_iff.mp (mergeNodes_fst_ids _ augment_id _ ([], []) b.nodes)]
    exact List.filter_eq_self.mpr fun _ _ => by simp
  · exact List.filter_eq_self.mpr fun _ _ => by simp
  · rw [(add_sem _ b).edges]
    simp [NodeList.HasEdge, HasEdgeL, NodeList.ids]

/-- the identifiers as in `relateNodeListAtID_some`, for the one-node list: `graft_wf` serves both -/
theorem relateNodeAtID_some {nl : NodeList} {n : Node} {at_ : String} {ty : Int} {r : NodeList}
    (h : nl.relateNodeAtID n at_ ty = some r) :
    at_ ∈ nl.ids ∧ r.roots = nl.roots ∧
    r.ids = mergedIds nl.ids [n.id] ∧
    r.edges = mergeEdge (· ++ [n.id]) (nl.edges.any (·.key = (at_, ty))) nl.edges ⟨ty, at_, [n.id]⟩ := by
  unfold NodeList.relateNodeAtID at h
  split at h
  · cases h
    refine ⟨‹_›, rfl, ?_, rfl⟩
    show (if n.id ∈ nl.ids then nl.nodes else nl.nodes ++ [n]).map (·.id) = _
    by_cases hn : n.id ∈ nl.ids <;> simp [hn, mergedIds] <;> rfl
  · cases h

theorem relateNodeListAtID_some {a b : NodeList} {at_ : String} {ty : Int} {r : NodeList}
    (h : a.relateNodeListAtID b at_ ty = some r) :
    at_ ∈ a.ids ∧ r.roots = a.roots ∧
    r.ids = mergedIds a.ids b.ids ∧
    r.edges = b.edges.foldl (relateEdgeStep (a.edges.map Edge.key))
      (mergeEdge (addNew · b.roots) ((at_, ty) ∈ a.edges.map Edge.key) a.edges ⟨ty, at_, b.roots⟩) := by
  unfold NodeList.relateNodeListAtID at h
  split at h
  · cases h; exact ⟨‹_›, rfl, map_id_merged a.nodes b.nodes, rfl⟩
  · cases h

theorem relateNodeListAtID_ids (a b : NodeList) (anchor : String) (ty : Int) (r : NodeList)
    (h : a.relateNodeListAtID b anchor ty = some r) (x : String) : x ∈ r.ids ↔ x ∈ a.ids ∨ x ∈ b.ids :=
  (relateNodeListAtID_some h).2.2.1 ▸ mem_mergedIds a.ids b.ids x

theorem relateNodeListAtID_defined (a b : NodeList) (anchor : String) (ty : Int) (h : anchor ∈ a.ids) :
    ∃ r, a.relateNodeListAtID b anchor ty = some r := by
  unfold NodeList.relateNodeListAtID
  simp [h]

/-- the stale index `keys0` of the `RelateNodeListAtID` loop stays valid: keys are never removed -/
theorem relateEdges_rel (keys0 : List Key) (acc es : List Edge)
    (hk : ∀ k ∈ keys0, k ∈ acc.map Edge.key) (s : String) (t : Int) (d : String) :
    HasEdgeL (es.foldl (relateEdgeStep keys0) acc) s t d ↔ HasEdgeL acc s t d ∨ HasEdgeL es s t d :=
  hasEdgeL_foldl id (relateEdgeStep keys0) (fun acc => ∀ k ∈ keys0, k ∈ acc.map Edge.key)
    (fun acc e hk => ⟨fun k h => keys_sub_merge (addNew · e.tos) e _ acc k (hk k h),
      hasEdgeL_merge _ e (mem_addNew · e.tos) _ acc (fun h => by simpa using hk _ h)⟩)
    es acc hk s t d

theorem relateNodeListAtID_edges {a b : NodeList} {at_ : String} {ty : Int} {r : NodeList}
    (h : a.relateNodeListAtID b at_ ty = some r) (s : String) (t : Int) (d : String) :
    r.HasEdge s t d ↔ a.HasEdge s t d ∨ ((s, t) = (at_, ty) ∧ d ∈ b.roots) ∨ b.HasEdge s t d := by
  have hm := hasEdgeL_merge (addNew · b.roots) ⟨ty, at_, b.roots⟩ (mem_addNew · b.roots)
    ((at_, ty) ∈ a.edges.map Edge.key) a.edges List.mem_map.mp s t d
  rw [NodeList.HasEdge, (relateNodeListAtID_some h).2.2.2]
  exact (relateEdges_rel _ _ _ (keys_sub_merge (addNew · b.roots) ⟨ty, at_, b.roots⟩ _ a.edges) s t d).trans
    (by rw [hm, hasEdgeL_single, or_assoc]; rfl)

theorem relateNodeListAtID_nodes {a b : NodeList} {at_ : String} {ty : Int} {r : NodeList}
    (h : a.relateNodeListAtID b at_ ty = some r) : r.nodes = a.nodes ++ b.nodes.filter (·.id ∉ a.ids) := by
  unfold NodeList.relateNodeListAtID at h
  split at h <;> cases h
  rfl

theorem relate_getD_roots (a b : NodeList) (anchor : String) (ty : Int) :
    ((a.relateNodeListAtID b anchor ty).getD a).roots = a.roots := by
  cases h : a.relateNodeListAtID b anchor ty with
  | none => rfl
  | some r => exact (relateNodeListAtID_some h).2.1

end Protobom
