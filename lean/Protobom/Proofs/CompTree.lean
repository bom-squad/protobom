/- Component trees. One observation, the preorder list of subcomponents `flat`, carries what the
   round trip needs: references and the child relation are read off it, and a map applied at every
   level of a tree (`convComp`, `clearAuto`) commutes with it. -/
import Protobom.Model.Cdx
import Protobom.Proofs.Lists

namespace Protobom.Cdx

/-- a component without its sub-components: all the parser's `componentToNode` looks at -/
def Component.data : Component → Component
  | .mk r t n v d c p e l h x s _ => .mk r t n v d c p e l h x s []

mutual
  /-- references of a component subtree in preorder -/
  def Component.refs : Component → List String
    | .mk r _ _ _ _ _ _ _ _ _ _ _ ks => r :: refsL ks
  def refsL : List Component → List String
    | [] => []
    | c :: cs => c.refs ++ refsL cs
end

mutual
  /-- `d` is a direct sub-component of the component with reference `s`, somewhere in the tree -/
  def ChildIn : Component → String → String → Prop
    | .mk r _ _ _ _ _ _ _ _ _ _ _ ks, s, d => (s = r ∧ d ∈ ks.map Component.bomRef) ∨ ChildInL ks s d
  def ChildInL : List Component → String → String → Prop
    | [], _, _ => False
    | c :: cs, s, d => ChildIn c s d ∨ ChildInL cs s d
end

mutual
  /-- the components of a subtree in preorder -/
  def Component.flat : Component → List Component
    | .mk r t n v d c p e l h x s ks => .mk r t n v d c p e l h x s ks :: flatL ks
  def flatL : List Component → List Component
    | [] => []
    | c :: cs => c.flat ++ flatL cs
end

/-- `c` is `c'` or one of the components nested in it, at any depth -/
inductive Sub : Component → Component → Prop
  | refl (c : Component) : Sub c c
  | kid {c k c' : Component} : k ∈ c'.kids → Sub c k → Sub c c'

def NoAuto (refs : List String) : Prop := ∀ r ∈ refs, isAutoRef r = false

mutual
  theorem Component.ind {P : Component → Prop} (h : ∀ c, (∀ k ∈ c.kids, P k) → P c) : ∀ c, P c
    | .mk r t n v d cp p e l hs x s ks => h (.mk r t n v d cp p e l hs x s ks) (Component.indL h ks)
  theorem Component.indL {P : Component → Prop} (h : ∀ c, (∀ k ∈ c.kids, P k) → P c) :
      ∀ ks : List Component, ∀ k ∈ ks, P k
    | [] => fun _ hk => nomatch hk
    | c :: cs => List.forall_mem_cons.mpr ⟨Component.ind h c, Component.indL h cs⟩
end

/-! ### the list halves of the mutual definitions are `map` / `flatMap` / `∃` -/

theorem refsL_eq : ∀ ks : List Component, refsL ks = ks.flatMap Component.refs
  | [] => rfl
  | c :: cs => by rw [refsL, refsL_eq cs, List.flatMap_cons]

theorem flatL_eq : ∀ ks : List Component, flatL ks = ks.flatMap Component.flat
  | [] => rfl
  | c :: cs => by rw [flatL, flatL_eq cs, List.flatMap_cons]

theorem convCompL_eq (v : Nat) : ∀ ks : List Component, convCompL v ks = ks.map (convComp v)
  | [] => rfl
  | c :: cs => by rw [convCompL, convCompL_eq v cs, List.map_cons]

theorem clearAutoL_eq : ∀ ks : List Component, clearAutoL ks = ks.map clearAuto
  | [] => rfl
  | c :: cs => by rw [clearAutoL, clearAutoL_eq cs, List.map_cons]

theorem childInL_iff (s d : String) : ∀ ks : List Component, ChildInL ks s d ↔ ∃ k ∈ ks, ChildIn k s d
  | [] => by simp [ChildInL]
  | c :: cs => by simp only [ChildInL, childInL_iff s d cs, List.mem_cons, exists_eq_or_imp]

/-! ### the component halves, in terms of `bomRef` and `kids` -/

theorem refs_eq_refsL (c : Component) : c.refs = c.bomRef :: refsL c.kids := by cases c; rfl

theorem flat_eq_flatL (c : Component) : c.flat = c :: flatL c.kids := by cases c; rfl

theorem childIn_eq_childInL (c : Component) (s d : String) :
    ChildIn c s d ↔ (s = c.bomRef ∧ d ∈ c.kids.map Component.bomRef) ∨ ChildInL c.kids s d := by cases c; rfl

theorem flat_eq (c : Component) : c.flat = c :: c.kids.flatMap Component.flat := by
  rw [flat_eq_flatL, flatL_eq]

theorem refs_eq (c : Component) : c.refs = c.bomRef :: c.kids.flatMap Component.refs := by
  rw [refs_eq_refsL, refsL_eq]

theorem childIn_eq (c : Component) (s d : String) :
    ChildIn c s d ↔ (s = c.bomRef ∧ d ∈ c.kids.map Component.bomRef) ∨ ∃ k ∈ c.kids, ChildIn k s d := by
  rw [childIn_eq_childInL, childInL_iff]

theorem convComp_kids (v : Nat) (c : Component) : (convComp v c).kids = c.kids.map (convComp v) := by
  cases c; rw [convComp, convCompL_eq]; rfl

theorem clearAuto_kids (c : Component) : (clearAuto c).kids = c.kids.map clearAuto := by
  cases c; rw [clearAuto, clearAutoL_eq]; rfl

theorem convComp_bomRef (v : Nat) (c : Component) : (convComp v c).bomRef = c.bomRef := by cases c; rfl

theorem clearAuto_bomRef (c : Component) (h : isAutoRef c.bomRef = false) : (clearAuto c).bomRef = c.bomRef := by
  cases c
  simp only [Component.bomRef] at h
  simp [clearAuto, Component.bomRef, h]

theorem bomRef_withKids (c : Component) (ks : List Component) : (c.withKids ks).bomRef = c.bomRef := by
  cases c; rfl

theorem data_bomRef (c : Component) : c.data.bomRef = c.bomRef := by cases c; rfl

theorem data_withKids (c : Component) (ks : List Component) : (c.withKids ks).data = c.data := by cases c; rfl

theorem data_of_kids_nil (c : Component) (h : c.kids = []) : c.data = c := by
  cases c; simp only [Component.kids] at h; simp [Component.data, h]

theorem convComp_data (v : Nat) (c : Component) : (convComp v c).data = convComp v c.data := by cases c; rfl

theorem clearAuto_data (c : Component) : (clearAuto c).data = clearAuto c.data := by cases c; rfl

theorem clearAuto_of_not_auto (c : Component) (h : isAutoRef c.bomRef = false) (hk : c.kids = []) : clearAuto c = c := by
  cases c
  simp only [Component.bomRef] at h
  simp only [Component.kids] at hk
  simp [clearAuto, h, hk, clearAutoL]

theorem not_childIn_of_kids_nil {c : Component} (h : c.kids = []) (s d : String) : ¬ ChildIn c s d := by
  rw [childIn_eq, h]; simp

/-! ### everything is read off `flat` -/

theorem mem_flat_self (c : Component) : c ∈ c.flat := by rw [flat_eq]; exact List.mem_cons_self

theorem refs_eq_flat : ∀ c : Component, c.refs = c.flat.map Component.bomRef :=
  Component.ind fun c ih => by
    rw [refs_eq, flat_eq, List.map_cons, List.map_flatMap]
    exact congrArg _ (flatMap_congr' ih)

theorem refsL_eq_flatL (ks : List Component) : refsL ks = (flatL ks).map Component.bomRef := by
  rw [refsL_eq, flatL_eq, List.map_flatMap]
  exact flatMap_congr' fun k _ => refs_eq_flat k

theorem bomRef_mem_refs (c : Component) : c.bomRef ∈ c.refs := by rw [refs_eq]; exact List.mem_cons_self

theorem childIn_iff_flat (s d : String) : ∀ c : Component,
    ChildIn c s d ↔ ∃ p ∈ c.flat, s = p.bomRef ∧ d ∈ p.kids.map Component.bomRef :=
  Component.ind fun c ih => by
    rw [childIn_eq, flat_eq]
    simp only [List.mem_cons, List.mem_flatMap, exists_eq_or_imp]
    refine or_congr Iff.rfl ⟨?_, ?_⟩
    · rintro ⟨k, hk, h⟩
      obtain ⟨p, hp, hsd⟩ := (ih k hk).mp h
      exact ⟨p, ⟨k, hk, hp⟩, hsd⟩
    · rintro ⟨p, ⟨k, hk, hp⟩, hsd⟩
      exact ⟨k, hk, (ih k hk).mpr ⟨p, hp, hsd⟩⟩

theorem childInL_iff_flatL (s d : String) (ks : List Component) :
    ChildInL ks s d ↔ ∃ p ∈ flatL ks, s = p.bomRef ∧ d ∈ p.kids.map Component.bomRef := by
  rw [childInL_iff, flatL_eq]
  simp only [childIn_iff_flat, List.mem_flatMap]
  exact ⟨fun ⟨k, hk, p, hp, h⟩ => ⟨p, ⟨k, hk, hp⟩, h⟩, fun ⟨p, ⟨k, hk, hp⟩, h⟩ => ⟨k, hk, p, hp, h⟩⟩

theorem mem_flat_trans {k p : Component} (hk : k ∈ p.flat) : ∀ c : Component, p ∈ c.flat → k ∈ c.flat :=
  Component.ind fun c ih hp => by
    rw [flat_eq, List.mem_cons, List.mem_flatMap] at hp ⊢
    rcases hp with rfl | ⟨k', hk', hp⟩
    · rwa [flat_eq, List.mem_cons, List.mem_flatMap] at hk
    · exact Or.inr ⟨k', hk', ih k' hk' hp⟩

theorem kid_mem_flat {k p c : Component} (hp : p ∈ c.flat) (hk : k ∈ p.kids) : k ∈ c.flat :=
  mem_flat_trans (by rw [flat_eq p]; exact List.mem_cons_of_mem _ (List.mem_flatMap.mpr ⟨k, hk, mem_flat_self k⟩)) c hp

theorem childIn_refs (c : Component) (s d : String) (h : ChildIn c s d) : s ∈ c.refs ∧ d ∈ c.refs := by
  obtain ⟨p, hp, rfl, hd⟩ := (childIn_iff_flat s d c).mp h
  obtain ⟨k, hk, rfl⟩ := List.mem_map.mp hd
  rw [refs_eq_flat]
  exact ⟨List.mem_map_of_mem hp, List.mem_map_of_mem (kid_mem_flat hp hk)⟩

/-! ### maps applied at every level of the tree -/

section
variable (h : Component → Component) (hk : ∀ c, (h c).kids = c.kids.map h)
include hk

theorem flat_hom : ∀ c : Component, (h c).flat = c.flat.map h :=
  Component.ind fun c ih => by
    rw [flat_eq, flat_eq c, hk, List.map_cons, List.flatMap_map, List.map_flatMap]
    exact congrArg _ (flatMap_congr' ih)

theorem flatL_hom (ks : List Component) : flatL (ks.map h) = (flatL ks).map h := by
  rw [flatL_eq, flatL_eq, List.flatMap_map, List.map_flatMap]
  exact flatMap_congr' fun k _ => flat_hom h hk k

variable (c : Component) (hr : ∀ p ∈ c.flat, (h p).bomRef = p.bomRef)
include hr

theorem hom_refs : (h c).refs = c.refs := by
  rw [refs_eq_flat, refs_eq_flat c, flat_hom h hk, List.map_map]
  exact List.map_congr_left hr

theorem hom_childIn (s d : String) : ChildIn (h c) s d ↔ ChildIn c s d := by
  rw [childIn_iff_flat, childIn_iff_flat, flat_hom h hk]
  have key : ∀ p ∈ c.flat, (h p).bomRef = p.bomRef ∧ (h p).kids.map Component.bomRef = p.kids.map Component.bomRef :=
    fun p hp => ⟨hr p hp, by
      rw [hk, List.map_map]; exact List.map_congr_left fun k hkk => hr k (kid_mem_flat hp hkk)⟩
  constructor
  · rintro ⟨_, hq, hsd⟩
    obtain ⟨p, hp, rfl⟩ := List.mem_map.mp hq
    rw [(key p hp).1, (key p hp).2] at hsd
    exact ⟨p, hp, hsd⟩
  · rintro ⟨p, hp, hsd⟩
    rw [← (key p hp).1, ← (key p hp).2] at hsd
    exact ⟨h p, List.mem_map_of_mem hp, hsd⟩

end

theorem convComp_refs (v : Nat) (c : Component) : (convComp v c).refs = c.refs :=
  hom_refs _ (convComp_kids v) c fun p _ => convComp_bomRef v p

theorem clearAuto_keeps {c : Component} (hn : NoAuto c.refs) : ∀ p ∈ c.flat, (clearAuto p).bomRef = p.bomRef :=
  fun p hp => clearAuto_bomRef p (hn _ (by rw [refs_eq_flat]; exact List.mem_map_of_mem hp))

theorem clearAuto_refs : ∀ c : Component, NoAuto c.refs → (clearAuto c).refs = c.refs :=
  fun c hn => hom_refs _ clearAuto_kids c (clearAuto_keeps hn)

theorem clearAuto_childIn : ∀ (c : Component) (s d : String), NoAuto c.refs →
      (ChildIn (clearAuto c) s d ↔ ChildIn c s d) :=
  fun c s d hn => hom_childIn _ clearAuto_kids c (clearAuto_keeps hn) s d

theorem clearAuto_flat_data : ∀ c : Component,
      (clearAuto c).flat.map Component.data = (c.flat.map Component.data).map clearAuto :=
  fun c => by
    rw [flat_hom _ clearAuto_kids, List.map_map, List.map_map]
    exact List.map_congr_left fun p _ => clearAuto_data p

end Protobom.Cdx
