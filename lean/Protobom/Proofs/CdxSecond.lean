/- A second CycloneDX write-then-read pass changes nothing further, at the level of a node:
   `rtNode v (rtNode v n) = rtNode v n` for the nodes of the round-trip class (`CdxNode`), at every spec version. -/
import Protobom.Proofs.CdxAttrs

namespace Protobom.Cdx
open Protobom Gen

/-! ### component types: the table fixpoint for the types a spec version has -/

def supList (v : Nat) : List String :=
  ["application", "device", "framework", "library", "operating-system", "file", "container", "firmware"] ++
    (if v ≥ 5 then ["data", "device-driver", "machine-learning-model", "platform"] else [])

def convType (v : Nat) (t : String) : String := if supportsType v t then t else "application"

theorem convType_mem (v : Nat) (t : String) : convType v t ∈ supList v := by
  unfold convType
  split
  next h =>
    unfold supportsType at h
    split at h
    · exact List.mem_append_left _ ‹_›
    · split at h
      · exact List.mem_append_right _ (if_pos (of_decide_eq_true h) ▸ ‹_›)
      · cases h
  next => exact List.mem_append_left _ List.mem_cons_self

theorem convType_4_or_5 (v : Nat) : convType v = convType 4 ∨ convType v = convType 5 := by
  unfold convType supportsType
  by_cases h : v ≥ 5
  · exact Or.inr (by rw [decide_eq_true h]; rfl)
  · exact Or.inl (by rw [decide_eq_false h]; rfl)

/-- the type written for a node that was read back (`file` for FILE nodes, else the table entry of
    its single purpose) reads back as the same purpose -/
def typeFix (v : Nat) (s : String) : Bool :=
  let p := purposeIn s
  purposeIn (convType v (if (if p = 12 then (1 : Int) else 0) = 1 then "file" else (purposeOut p).getD "")) = p

theorem typeFix_4 : ∀ s ∈ supList 4, typeFix 4 s = true := by decide +kernel
theorem typeFix_5 : ∀ s ∈ supList 5, typeFix 5 s = true := by decide +kernel

theorem type_fix (v : Nat) (t0 : String) :
    purposeIn (convType v (if (if purposeIn (convType v t0) = 12 then (1 : Int) else 0) = 1 then "file"
      else (purposeOut (purposeIn (convType v t0))).getD "")) = purposeIn (convType v t0) := by
  rcases convType_4_or_5 v with h | h <;> rw [h]
  · simpa [typeFix] using typeFix_4 _ (convType_mem 4 t0)
  · simpa [typeFix] using typeFix_5 _ (convType_mem 5 t0)

/-! ### the other fields: what came back is written again as it was written before -/

theorem licenseList_short (ls : List String) :
    ls.length ≤ 1 →
    let lic : Option (List LicChoice) := match ls with | [] => none | ls => some (ls.map (fun l => { license := some l }))
    let lic' : Option (List LicChoice) := match licenseList lic with | [] => none | ls => some (ls.map (fun l => { license := some l }))
    licenseList lic' = licenseList lic ∧ licenseString lic' = licenseString lic := by
  intro h
  match ls, h with
  | [], _ => simp [licenseList, licenseString]
  | [l], _ =>
    by_cases hl : l = "" <;> simp [licenseList, licenseString, licenseID, hl]

theorem licenseList_length (l : Option (List LicChoice)) : (licenseList l).length ≤ 1 := by
  unfold licenseList
  split
  · simp
  · split <;> simp

theorem ver_fix (v : Nat) (s : String) :
    (if v < 4 ∧ (if v < 4 ∧ s = "" then "0.0.0" else s) = "" then "0.0.0" else if v < 4 ∧ s = "" then "0.0.0" else s) =
      if v < 4 ∧ s = "" then "0.0.0" else s := by
  by_cases h1 : v < 4 <;> by_cases h2 : s = "" <;> simp [h1, h2]

theorem ids_fix (purl cpe : String) :
    compIds ((List.lookup 1 (compIds purl cpe)).getD "")
      (match List.lookup 3 (compIds purl cpe) with
       | some c => c
       | none => (List.lookup 2 (compIds purl cpe)).getD "") = compIds purl cpe := by
  by_cases h1 : cpe = "" <;> by_cases h2 : purl = "" <;> by_cases h3 : Str.hasPrefix cpe "cpe:2.3" = true <;>
    simp [compIds, h1, h2, h3, List.lookup]

theorem hashesOut_sorted (m : List (Int × String)) (hnd : (m.map (·.1)).Nodup) : hashesOut (sortedByKey m) = hashesOut m := by
  unfold hashesOut; rw [sortedByKey_idem m hnd]

theorem hashes_fix (m : List (Int × String)) (hk : ∀ kv ∈ m, kv.1 ∈ cdxHashes) (hnd : (m.map (·.1)).Nodup) :
    hashesOut (compHashes (hashesOut m)) = hashesOut m := by
  rw [compHashes_hashesOut m hk hnd, hashesOut_sorted m hnd]

theorem refs_pass (v : Nat) (refs : List ExtRef)
    (h : ∀ r ∈ refs, r.typ ∈ refTypesAll ∧ (∀ kv ∈ r.hashes, kv.1 ∈ cdxHashes) ∧ (r.hashes.map (·.1)).Nodup) :
    compRefs ((refs.map refOut).map (convRef v)) =
      refs.map (fun r => { r with authority := "", hashes := sortedByKey r.hashes }) := by
  simp only [compRefs, List.map_map]
  apply List.map_congr_left
  intro r hr
  obtain ⟨h1, h2, h3⟩ := h r hr
  have ht := reftypes_roundtrip_all v r.typ h1
  simp only [Function.comp, convRef] at ht ⊢
  rw [ht, refHashes_hashesOut r.hashes h2 h3]

theorem refs_fix (v : Nat) (refs : List ExtRef)
    (h : ∀ r ∈ refs, r.typ ∈ refTypesAll ∧ (∀ kv ∈ r.hashes, kv.1 ∈ cdxHashes) ∧ (r.hashes.map (·.1)).Nodup) :
    (compRefs ((refs.map refOut).map (convRef v))).map refOut = refs.map refOut := by
  rw [refs_pass v refs h, List.map_map]
  exact List.map_congr_left fun r hr => by simp only [Function.comp, refOut, hashesOut_sorted _ (h r hr).2.2]

/-- the nodes of the round-trip class: a non-empty identifier, at most one licence (more are cut to one), key-unique
    hash maps (its own and its references') over the algorithms CycloneDX has a name for, reference types that every
    spec version has -/
structure CdxNode (n : Node) : Prop where
  id : n.id ≠ ""
  lic : (Spdx.Node.strs n "Licenses").length ≤ 1
  hk : ∀ kv ∈ n.hashes, kv.1 ∈ cdxHashes
  hnd : (n.hashes.map (·.1)).Nodup
  refs : ∀ r ∈ Spdx.Node.refs n "ExternalReferences", r.typ ∈ refTypesAll ∧
    (∀ kv ∈ r.hashes, kv.1 ∈ cdxHashes) ∧ (r.hashes.map (·.1)).Nodup

/-- the same, the identifier aside, on what a node holds -/
def View.Ok (V : View) : Prop :=
  V.lic.length ≤ 1 ∧ (∀ kv ∈ V.hs, kv.1 ∈ cdxHashes) ∧ (V.hs.map (·.1)).Nodup ∧
  ∀ r ∈ V.refs, r.typ ∈ refTypesAll ∧ (∀ kv ∈ r.hashes, kv.1 ∈ cdxHashes) ∧ (r.hashes.map (·.1)).Nodup

theorem CdxNode.ok {n : Node} (c : CdxNode n) : (readView n).Ok := by
  -- unfolded first: matching `(readView n).hs` against `n.hashes` by the unifier evaluates `attrIdx "Hashes"`
  simp only [View.Ok, readView]; exact ⟨c.lic, c.hk, c.hnd, c.refs⟩

/-- Field by field, what one pass returns is written as what was written before (`refs_fix`,
    `hashes_fix`, …), so it reads as the same again: write ∘ read ∘ write = write, for which the class
    need not be closed under a pass. -/
theorem pass_idem (v : Nat) (V : View) (h : V.Ok) : pass v (pass v V) = pass v V := by
  obtain ⟨h1, h2, h3, h4⟩ := h
  simp only [pass, View.comp, convComp, Component.view, View.mk.injEq]
  exact ⟨congrArg (fun p => if p = 12 then (1 : Int) else 0) (type_fix v _), trivial, ver_fix v _, trivial, trivial,
    (licenseList_short V.lic h1).1, (licenseList_short V.lic h1).2, congrArg (· :: []) (type_fix v _),
    congrArg (fun x => compRefs (x.map (convRef v))) (refs_fix v _ h4), ids_fix _ _,
    congrArg compHashes (hashes_fix V.hs h2 h3)⟩

theorem pass_ok (v : Nat) (V : View) (h : V.Ok) : (pass v V).Ok := by
  obtain ⟨_, h2, h3, h4⟩ := h
  have e : (pass v V).hs = sortedByKey V.hs := compHashes_hashesOut V.hs h2 h3
  refine ⟨licenseList_length _, e ▸ sortedByKey_in _ _ h2, e ▸ sortedByKey_keys_nodup _ h3, ?_⟩
  show ∀ r ∈ compRefs ((V.refs.map refOut).map (convRef v)), _
  rw [refs_pass v _ h4]
  intro r hr
  obtain ⟨r0, hr0, rfl⟩ := List.mem_map.mp hr
  obtain ⟨h1, h2, h3⟩ := h4 r0 hr0
  exact ⟨h1, sortedByKey_in _ _ h2, sortedByKey_keys_nodup _ h3⟩

theorem second_pass_all (v : Nat) (n : Node) (c : CdxNode n) : rtNode v (rtNode v n) = rtNode v n := by
  rw [rtNode_eq v (rtNode v n), readView_rtNode, pass_idem v _ c.ok, rtNode_id v _ (rtNode_id v n c.id ▸ c.id),
    ← rtNode_eq]

theorem rtNode_class (v : Nat) (n : Node) (c : CdxNode n) : CdxNode (rtNode v n) := by
  have h := pass_ok v _ c.ok
  rw [← readView_rtNode] at h
  simp only [View.Ok, readView] at h
  exact ⟨rtNode_id v n c.id ▸ c.id, h.1, h.2.1, h.2.2.1, h.2.2.2⟩

end Protobom.Cdx
