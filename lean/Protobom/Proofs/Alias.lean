/- L2 is the identity layer (Model/Alias.lean): values whose mutable containers carry allocation tags. A deep
   copy (`refresh`) and, where the regenerated field forms allow it (`formsFresh`), the table-driven `Copy`
   functions return the same value under tags that were all allocated during the call (`IsCopy`); every tag in
   the result of `Node.Update` comes from one of its two operands (`updateFields_tags`). -/
import Protobom.Model.Alias

namespace Protobom.L2

/-- the tags `ts` were allocated by a call that moved the counter from `s` to `s'` -/
def Fresh (s s' : Nat) (ts : List Nat) : Prop := s ≤ s' ∧ ∀ t ∈ ts, s ≤ t ∧ t < s'

theorem Fresh.nil (s : Nat) : Fresh s s [] := ⟨Nat.le_refl s, fun _ h => nomatch h⟩

theorem Fresh.cons {s s' : Nat} {ts : List Nat} (h : Fresh (s + 1) s' ts) : Fresh s s' (s :: ts) := by
  refine ⟨by have := h.1; omega, fun t ht => ?_⟩
  rcases List.mem_cons.mp ht with rfl | ht
  · have := h.1; omega
  · have := h.2 t ht; omega

theorem Fresh.append {s s₁ s₂ : Nat} {a b : List Nat} (ha : Fresh s s₁ a) (hb : Fresh s₁ s₂ b) :
    Fresh s s₂ (a ++ b) := by
  refine ⟨Nat.le_trans ha.1 hb.1, fun t ht => ?_⟩
  have := ha.1; have := hb.1
  rcases List.mem_append.mp ht with h | h
  · have := ha.2 t h; omega
  · have := hb.2 t h; omega

/-- `r` (a value and the counter after it) is a copy of `o` made from counter `s` on: every tag in it
    was allocated on the way, and it has the value of `o` -/
def IsCopy (s : Nat) (o : Obj) (r : Obj × Nat) : Prop := Fresh s r.2 r.1.tags ∧ r.1.erase = o.erase

def IsCopyL (s : Nat) (os : List Obj) (r : List Obj × Nat) : Prop := Fresh s r.2 (tagsL r.1) ∧ eraseL r.1 = eraseL os

theorem IsCopy.leaf (s : Nat) (v : String) : IsCopy s (.leaf v) (.leaf v, s) := ⟨Fresh.nil s, rfl⟩

theorem IsCopyL.box {s : Nat} {ks : List Obj} {r : List Obj × Nat} (t : Nat) (h : IsCopyL (s + 1) ks r) :
    IsCopy s (.box t ks) (.box s r.1, r.2) := ⟨h.1.cons, congrArg Shape.node h.2⟩

theorem IsCopyL.nil (s : Nat) : IsCopyL s [] ([], s) := ⟨Fresh.nil s, rfl⟩

theorem IsCopy.cons {s : Nat} {o : Obj} {r : Obj × Nat} {os : List Obj} {rs : List Obj × Nat}
    (h : IsCopy s o r) (hs : IsCopyL r.2 os rs) : IsCopyL s (o :: os) (r.1 :: rs.1, rs.2) :=
  ⟨h.1.append hs.1, by simp only [eraseL, h.2, hs.2]⟩

theorem IsCopyL.leaves (s : Nat) : ∀ {ks : List Obj}, ks.all Obj.isLeaf = true → IsCopyL s ks (ks, s)
  | [], _ => .nil s
  | .leaf v :: ks, h => (IsCopy.leaf s v).cons (IsCopyL.leaves s (ks := ks) h)
  | .box _ _ :: _, h => (Bool.false_ne_true h).elim

mutual
  theorem refresh_spec : ∀ (o : Obj) (s : Nat), IsCopy s o (o.refresh s)
    | .leaf v, s => .leaf s v
    | .box t ks, s => (refreshL_spec ks (s + 1)).box t
  theorem refreshL_spec : ∀ (l : List Obj) (s : Nat), IsCopyL s l (refreshL l s)
    | [], s => .nil s
    | o :: os, s => (refresh_spec o s).cons (refreshL_spec os (o.refresh s).2)
end

theorem copyField_elemcopy (t : Nat) (ks : List Obj) (s : Nat) :
    copyField "elemcopy" (.box t ks) s = (Obj.box t ks).refresh s := by
  simp [copyField, Obj.refresh]

theorem copyField_spec (form : String) (o : Obj) (s : Nat) (hf : formFresh form o = true) :
    IsCopy s o (copyField form o s) := by
  cases o with
  | leaf v => exact .leaf s v
  | box t ks =>
    simp only [formFresh] at hf
    split at hf
    · rename_i h1
      simp only [copyField, h1, if_true]
      exact (IsCopyL.leaves (s + 1) hf).box t
    · cases of_decide_eq_true hf
      exact copyField_elemcopy t ks s ▸ refresh_spec (.box t ks) s

theorem copyFields_spec (forms : List String) (os : List Obj) (s : Nat) (hf : formsFresh forms os = true) :
    IsCopyL s os (copyFields forms os s) := by
  fun_induction formsFresh forms os generalizing s with
  | case1 f fs o os ih =>
    simp only [Bool.and_eq_true] at hf
    exact (copyField_spec f o s hf.1).cons (ih _ hf.2)
  | case2 => exact .nil s
  | case3 => cases hf

theorem copyMsg_spec (forms : List String) (t : Nat) (ks : List Obj) (s : Nat)
    (hf : formsFresh forms ks = true) : IsCopy s (.box t ks) (copyMsg forms (.box t ks) s) :=
  (copyFields_spec forms ks (s + 1) hf).box t

theorem updateFields_tags (takes : List Bool) (n m : List Obj) :
    ∀ t ∈ tagsL (updateFields takes n m), t ∈ tagsL n ∨ t ∈ tagsL m := by
  fun_induction updateFields takes n m with
  | case1 b bs a as c cs ih =>
    intro t ht
    simp only [tagsL, List.mem_append] at ht ⊢
    rcases ht with h | h
    · cases b
      · exact Or.inl (Or.inl h)
      · exact Or.inr (Or.inl h)
    · exact (ih t h).imp Or.inr Or.inr
  | case2 => exact fun t ht => Or.inl ht

end Protobom.L2
