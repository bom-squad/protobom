/- The identifier generator: alphabet and non-emptiness of what it returns. -/
import Protobom.Model.Ident

namespace Protobom

/-- the identifier-safe alphabet of SPDX and CycloneDX references: letters, digits, `.`, `-` -/
def idSafe (c : Char) : Bool := c.isAlphanum || c = '.' || c = '-'

end Protobom

namespace Protobom.Ident
open Protobom

theorem safeByte_char : ∀ n, n < 256 → isSafeByte (UInt8.ofNat n) = true → idSafe (Char.ofNat n) = true := by
  decide +kernel

abbrev AllSafe (l : List Char) : Prop := ∀ c ∈ l, idSafe c = true

theorem encodeByte_safe (b : UInt8) : AllSafe (encodeByte b) := by
  intro c hc
  unfold encodeByte at hc
  split at hc
  · rename_i hb
    rw [List.mem_singleton.mp hc]
    exact safeByte_char b.toNat (UInt8.toNat_lt b) (by rwa [UInt8.ofNat_toNat])
  · rcases List.mem_cons.mp hc with rfl | h
    · decide
    · simp [idSafe, Char.isAlphanum, Nat.isDigit_of_mem_toDigits (by decide) (by decide) h]

theorem sanitize_safe (s : Bytes) : AllSafe (sanitize s) := fun c hc =>
  let ⟨b, _, hb⟩ := List.mem_flatMap.mp hc
  encodeByte_safe b c hb

theorem joinDash_cons (x : List Char) (xs : List (List Char)) :
    joinDash (x :: xs) = x ++ xs.flatMap ('-' :: ·) := by
  induction xs generalizing x with
  | nil => simp [joinDash]
  | cons y ys ih => simp [joinDash, ih]

theorem joinDash_safe (ps : List (List Char)) (h : ∀ p ∈ ps, AllSafe p) : AllSafe (joinDash ps) := by
  cases ps with
  | nil => intro c hc; cases hc
  | cons x xs =>
    intro c hc
    simp only [joinDash_cons, List.mem_append, List.mem_flatMap, List.mem_cons] at hc
    rcases hc with hc | ⟨z, hz, rfl | hc⟩
    · exact h x List.mem_cons_self c hc
    · decide
    · exact h z (List.mem_cons_of_mem _ hz) c hc

structure Inv (st : St) : Prop where
  head : ∃ x rest, st.known = x :: rest ∧ x ≠ []
  known : ∀ p ∈ st.known, AllSafe p
  valid : ∀ p ∈ st.valid, AllSafe p

theorem inv_init : Inv {} :=
  ⟨⟨_, [], rfl, by decide⟩, List.forall_mem_singleton.mpr (by decide), fun _ hp => nomatch hp⟩

theorem inv_step (st : St) (s : Bytes) (h : Inv st) : Inv (step st s) := by
  unfold step
  split
  · rename_i hc
    obtain ⟨x, rest, hr, hx⟩ := h.head
    refine ⟨⟨x, _, congrArg (· ++ _) hr, hx⟩,
      List.forall_mem_append.mpr ⟨h.known, List.forall_mem_singleton.mpr ?_⟩, h.valid⟩
    rcases hc.1 with rfl | rfl <;> decide
  · simp only
    split
    · exact h
    · exact ⟨h.head, h.known, List.forall_mem_append.mpr ⟨h.valid, List.forall_mem_singleton.mpr (sanitize_safe s)⟩⟩

theorem inv_fold (seeds : List Bytes) (st : St) (h : Inv st) : Inv (seeds.foldl step st) :=
  List.foldlRecOn (motive := Inv) seeds step h fun st h s _ => inv_step st s h

/-- `finish` without its unreachable branch: the pieces after the known prefixes are the fallback
    alone or the surviving seeds, never none -/
theorem finish_eq (st : St) (uuid : List Char) : ∃ v vs,
    (v :: vs = [uuid] ∨ v :: vs = st.valid) ∧ finish st uuid = joinDash (st.known ++ ('-' :: v) :: vs) := by
  unfold finish
  by_cases h : st.valid = []
  · exact ⟨uuid, [], .inl rfl, by simp [h]⟩
  · obtain ⟨v, vs, e⟩ := List.exists_cons_of_ne_nil h
    exact ⟨v, vs, .inr e.symm, by simp [e]⟩

theorem finish_safe (st : St) (uuid : List Char) (h : Inv st) (hu : AllSafe uuid) : AllSafe (finish st uuid) := by
  obtain ⟨v, vs, hv, e⟩ := finish_eq st uuid
  have hvalid : ∀ q ∈ v :: vs, AllSafe q := by
    rcases hv with hv | hv <;> rw [hv]
    · exact List.forall_mem_singleton.mpr hu
    · exact h.valid
  obtain ⟨hv1, hv2⟩ := List.forall_mem_cons.mp hvalid
  rw [e]
  exact joinDash_safe _ (List.forall_mem_append.mpr
    ⟨h.known, List.forall_mem_cons.mpr ⟨List.forall_mem_cons.mpr ⟨by decide, hv1⟩, hv2⟩⟩)

theorem finish_ne_nil (st : St) (uuid : List Char) (h : Inv st) : finish st uuid ≠ [] := by
  obtain ⟨x, rest, hr, hx⟩ := h.head
  obtain ⟨v, vs, _, e⟩ := finish_eq st uuid
  simp [e, hr, joinDash_cons, hx]

end Protobom.Ident
