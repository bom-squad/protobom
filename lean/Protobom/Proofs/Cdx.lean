/- CycloneDX: table lemmas; the parser as a fold (`compsToNL`, `topFold`, and with them the whole document, are
   folds of one step, `parseStep`: parse a component subtree, put its node list into the list built so far);
   what that fold makes of a component tree with pairwise distinct, non-empty references (`unserCDX_full`). -/
import Protobom.Proofs.CompTree
import Protobom.Proofs.Union

namespace Protobom.Cdx
open Protobom Gen

/-! ### tables (regenerated; checked by evaluation) -/

/-- the hash algorithms the CycloneDX writer table has a name for -/
def cdxHashes : List Int := (Schema.hashAlgorithms.map (·.2)).filter (fun a => (hashOut a).isSome)

theorem cdx_hash_roundtrip :
    ∀ a ∈ cdxHashes, (hashOut a).map hashFromCDX = some a ∧ (hashOut a).map hashIn = some a ∧ a ≠ 0 := by decide +kernel

/-- component types: one purpose per CycloneDX component type comes back as itself -/
def nativePurposes15 : List Int := [1, 5, 6, 7, 8, 13, 14, 16, 17, 21, 24]
def nativePurposes14 : List Int := [1, 5, 7, 13, 14, 16, 21]

/-- at 1.4 the four component types introduced by 1.5 are rewritten to `application` by cyclonedx-go -/
theorem types_rewritten_at_14 :
    ∀ t ∈ ["data", "device-driver", "machine-learning-model", "platform"], supportsType 4 t = false := by decide +kernel

/-- reference types whose CycloneDX name exists in the vocabulary of every version ≥ 1.1 -/
def refTypesAll : List Int := [3, 5, 6, 8, 13, 14, 21, 22, 24, 31, 39, 44, 45, 52, 55, 56, 60]
/-- … and those introduced by 1.5 -/
def refTypes15only : List Int := [1, 7, 9, 10, 11, 12, 15, 17, 19, 23, 25, 28, 37, 40, 41, 43, 48, 51, 54, 57, 59]

theorem reftypes_roundtrip_all (v : Nat) :
    ∀ t ∈ refTypesAll, refTypeIn (convRef v { typ := refTypeOut t }).typ = t := by
  intro t ht
  have h : refTypeOut t ∉ refTypes15 ∧ refTypeIn (refTypeOut t) = t := by revert t; decide +kernel
  simp [convRef, h.1, h.2]

/-! ### one node per component -/

theorem componentToNode_id (c : Component) (cc : Nat) (h : c.bomRef ≠ "") :
    (componentToNode c cc).id = c.bomRef := by
  cases c
  simp only [componentToNode, Component.bomRef] at *
  simp [h]

theorem componentToNode_data (c : Component) (cc : Nat) : componentToNode c cc = componentToNode c.data cc := by
  cases c; rfl

theorem componentToNode_cc (c : Component) (cc : Nat) (h : c.bomRef ≠ "") :
    componentToNode c cc = componentToNode c 0 := by
  cases c
  simp only [Component.bomRef] at h
  simp [componentToNode, h]

def NodesFrom : List Component → List Node → Prop
  | [], [] => True
  | c :: cs, n :: ns => (∃ cc, n = componentToNode c cc) ∧ NodesFrom cs ns
  | _, _ => False

theorem NodesFrom.cons {c : Component} {as : List Component} {xs : List Node} (cc : Nat) (h : NodesFrom as xs) :
    NodesFrom (c :: as) (componentToNode c cc :: xs) := ⟨⟨cc, rfl⟩, h⟩

theorem NodesFrom.ind {P : ∀ a x, NodesFrom a x → Prop} (nil : P [] [] trivial)
    (cons : ∀ c cc as xs (h : NodesFrom as xs), P as xs h → P (c :: as) (componentToNode c cc :: xs) (h.cons cc)) :
    ∀ {a : List Component} {x : List Node} (h : NodesFrom a x), P a x h
  | [], [], _ => nil
  | [], _ :: _, h => (h : False).elim
  | _ :: _, [], h => (h : False).elim
  | c :: as, _ :: xs, ⟨⟨cc, rfl⟩, h⟩ => cons c cc as xs h (NodesFrom.ind nil cons h)

theorem NodesFrom.append : ∀ {a b : List Component} {x y : List Node}, NodesFrom a x → NodesFrom b y →
    NodesFrom (a ++ b) (x ++ y) := by
  intro a b x y h1 h2
  induction h1 using NodesFrom.ind with
  | nil => exact h2
  | cons c cc as xs _ ih => exact ih.cons cc

theorem NodesFrom.length : ∀ {a : List Component} {x : List Node}, NodesFrom a x → a.length = x.length := by
  intro a x h
  induction h using NodesFrom.ind with
  | nil => rfl
  | cons c cc as xs _ ih => exact congrArg (· + 1) ih

theorem NodesFrom.mem : ∀ {a : List Component} {x : List Node}, NodesFrom a x → ∀ n ∈ x, ∃ c ∈ a, ∃ cc, n = componentToNode c cc := by
  intro a x h n hn
  induction h using NodesFrom.ind with
  | nil => cases hn
  | cons c cc as xs _ ih =>
    rcases List.mem_cons.mp hn with rfl | hn
    · exact ⟨c, List.mem_cons_self, cc, rfl⟩
    · obtain ⟨c', hc', hcc⟩ := ih hn
      exact ⟨c', List.mem_cons_of_mem _ hc', hcc⟩

theorem NodesFrom.eq_map {a : List Component} {x : List Node} (h : NodesFrom a x) (hne : ∀ c ∈ a, c.bomRef ≠ "") :
    x = a.map (fun c => componentToNode c 0) := by
  induction h using NodesFrom.ind with
  | nil => rfl
  | cons c cc as xs _ ih =>
    rw [List.map_cons, componentToNode_cc c cc (hne c List.mem_cons_self),
      ih fun c' hc' => hne c' (List.mem_cons_of_mem _ hc')]

theorem NodesFrom.ids {a : List Component} {x : List Node} (h : NodesFrom a x) (hne : ∀ c ∈ a, c.bomRef ≠ "") :
    x.map (·.id) = a.map Component.bomRef := by
  rw [h.eq_map hne, List.map_map]
  exact List.map_congr_left fun c hc => componentToNode_id c 0 (hne c hc)

/-! ### the parser is a fold: each component's sub-list is put into what is there -/

/-- the loop of `Unserialize` over the top-level components -/
def topFold (tops : List Component) (st : NodeList × Nat) : NodeList × Nat :=
  tops.foldl (fun (st : NodeList × Nat) c =>
      let r := compToNL c st.2
      match st.1.roots with
      | [] => (st.1.add r.1, r.2)
      | root :: _ => ((st.1.relateNodeListAtID r.1 root 5).getD st.1, r.2)) st

def topOp (a b : NodeList) : Option NodeList :=
  match a.roots with
  | [] => some (a.add b)
  | root :: _ => a.relateNodeListAtID b root 5

def parseStep (σ : NodeList → NodeList → Option NodeList) (st : NodeList × Nat) (k : Component) :
    NodeList × Nat :=
  ((σ st.1 (compToNL k st.2).1).getD st.1, (compToNL k st.2).2)

theorem compToNL_eq (c : Component) (cc : Nat) :
    compToNL c cc = compsToNL c.kids (cc + 1)
      { nodes := [componentToNode c (cc + 1)], edges := [], roots := [(componentToNode c (cc + 1)).id] }
      (componentToNode c (cc + 1)).id := by cases c; rfl

theorem compsToNL_eq_foldl (anchor : String) : ∀ (ks : List Component) (cc : Nat) (acc : NodeList),
    compsToNL ks cc acc anchor = ks.foldl (parseStep (·.relateNodeListAtID · anchor 5)) (acc, cc)
  | [], _, _ => rfl
  | _ :: ks, _, _ => compsToNL_eq_foldl anchor ks _ _

theorem topFold_eq_foldl (tops : List Component) (st : NodeList × Nat) :
    topFold tops st = tops.foldl (parseStep topOp) st := by
  unfold topFold
  congr; funext st c
  unfold parseStep topOp
  cases st.1.roots <;> rfl

/-- the metadata component is parsed like a first top-level component -/
theorem unserCDX_nodeList (b : Bom) :
    (unserCDX b).nodeList = some (topFold (b.metaComponent.toList ++ b.components) ({}, 0)).1 := by
  unfold unserCDX
  cases b.metaComponent <;> rfl

theorem topFold_eq_compsToNL (root : String) (rest : List String) : ∀ (tops : List Component) (acc : NodeList) (cc : Nat),
    acc.roots = root :: rest → topFold tops (acc, cc) = compsToNL tops cc acc root
  | [], _, _, _ => rfl
  | k :: ks, acc, cc, h => by
    rw [compsToNL, ← topFold_eq_compsToNL root rest ks _ _ ((relate_getD_roots acc _ root 5).trans h)]
    simp only [topFold, List.foldl_cons, h]

/-! ### the parser on a component tree with pairwise distinct, non-empty references -/

/-- what the parser makes of one component subtree: the images of its components in preorder, the
    component as sole root, the nesting as edges of type 5 (`contains`) -/
def TreeFull (c : Component) (nl : NodeList) : Prop :=
  NodesFrom c.flat nl.nodes ∧ nl.roots = [c.bomRef] ∧ ∀ s t d, nl.HasEdge s t d ↔ t = 5 ∧ ChildIn c s d

/-- … and of a list of subtrees grafted below `anchor` -/
def ForestFull (ks : List Component) (acc : NodeList) (anchor : String) (nl : NodeList) : Prop :=
  (∃ X, nl.nodes = acc.nodes ++ X ∧ NodesFrom (flatL ks) X) ∧ nl.roots = acc.roots ∧
  ∀ s t d, nl.HasEdge s t d ↔
    acc.HasEdge s t d ∨ (t = 5 ∧ ((s = anchor ∧ d ∈ ks.map Component.bomRef) ∨ ChildInL ks s d))

theorem TreeFull.ids {c : Component} {nl : NodeList} (h : TreeFull c nl) (hne : ∀ x ∈ c.refs, x ≠ "") :
    nl.ids = c.refs := by
  rw [refs_eq_flat] at hne ⊢
  exact h.1.ids fun p hp => hne _ (List.mem_map_of_mem hp)

theorem ForestFull.ids {ks : List Component} {acc nl : NodeList} {anchor : String} (h : ForestFull ks acc anchor nl)
    (hne : ∀ x ∈ refsL ks, x ≠ "") : nl.ids = acc.ids ++ refsL ks := by
  obtain ⟨X, hX, hF⟩ := h.1
  rw [refsL_eq_flatL] at hne ⊢
  rw [← hF.ids fun p hp => hne _ (List.mem_map_of_mem hp)]
  show nl.nodes.map _ = _
  rw [hX, List.map_append]; rfl

theorem foldl_full {anchor : String} (ks : List Component)
    (h : ∀ k ∈ ks, ∀ cc, (∀ x ∈ k.refs, x ≠ "") → k.refs.Nodup → TreeFull k (compToNL k cc).1)
    (st : NodeList × Nat) (hanc : anchor ∈ st.1.ids) (hne : ∀ x ∈ refsL ks, x ≠ "")
    (hnd : (st.1.ids ++ refsL ks).Nodup) :
    ForestFull ks st.1 anchor (ks.foldl (parseStep (·.relateNodeListAtID · anchor 5)) st).1 := by
  induction ks generalizing st with
  | nil => exact ⟨⟨[], (List.append_nil _).symm, trivial⟩, rfl, fun s t d => by simp [ChildInL]⟩
  | cons k ks ih =>
    have hk_ne : ∀ x ∈ k.refs, x ≠ "" := fun x hx => hne x (List.mem_append_left _ hx)
    have hnd1 : (st.1.ids ++ (k.refs ++ refsL ks)).Nodup := hnd
    have tk := h k List.mem_cons_self st.2 hk_ne (List.nodup_append.mp (List.nodup_append.mp hnd1).2.1).1
    have t1 := tk.ids hk_ne
    obtain ⟨r', hr'⟩ := relateNodeListAtID_defined st.1 (compToNL k st.2).1 anchor 5 hanc
    -- the grafted sub-list is disjoint from what is there, so its nodes are appended as they are
    have hnodes : r'.nodes = st.1.nodes ++ (compToNL k st.2).1.nodes :=
      (relateNodeListAtID_nodes hr').trans (congrArg _ (List.filter_eq_self.mpr fun n hn =>
        decide_eq_true fun hxa => (List.nodup_append.mp hnd1).2.2 _ hxa _
          (List.mem_append_left _ (t1 ▸ List.mem_map_of_mem (f := (·.id)) hn)) rfl))
    have hids : r'.ids = st.1.ids ++ k.refs := by
      show r'.nodes.map _ = _
      rw [hnodes, List.map_append]; exact congrArg _ t1
    obtain ⟨⟨X, hX, hF⟩, f2, f3⟩ := ih (fun k' hk' => h k' (List.mem_cons_of_mem _ hk')) (r', (compToNL k st.2).2)
      (hids ▸ List.mem_append_left _ hanc) (fun x hx => hne x (List.mem_append_right _ hx))
      (by rw [hids, List.append_assoc]; exact hnd1)
    rw [List.foldl_cons, parseStep, hr', Option.getD_some]
    refine ⟨⟨_ ++ X, by rw [hX, hnodes, List.append_assoc], tk.1.append hF⟩,
      f2.trans (relateNodeListAtID_some hr').2.1, fun s t d => ?_⟩
    rw [f3 s t d, relateNodeListAtID_edges hr' s t d, tk.2.2 s t d, tk.2.1]
    simp only [List.map_cons, List.mem_cons, List.not_mem_nil, or_false, ChildInL, Prod.mk.injEq,
      and_or_left, and_assoc, or_assoc]
    rw [and_left_comm (a := s = anchor), or_left_comm (a := t = 5 ∧ ChildIn k s d)]

theorem compToNL_full : ∀ (c : Component) (cc : Nat), (∀ x ∈ c.refs, x ≠ "") → c.refs.Nodup →
    TreeFull c (compToNL c cc).1 :=
  Component.ind fun c ih cc hne hnd => by
    rw [refs_eq_refsL] at hne hnd
    have hid := componentToNode_id c (cc + 1) (hne _ List.mem_cons_self)
    have hf := foldl_full (anchor := (componentToNode c (cc + 1)).id) c.kids ih
      ({ nodes := [componentToNode c (cc + 1)], edges := [], roots := [(componentToNode c (cc + 1)).id] }, cc + 1)
      List.mem_cons_self (fun x hx => hne x (List.mem_cons_of_mem _ hx))
      (by rw [NodeList.ids, List.map_singleton, hid]; exact hnd)
    rw [← compsToNL_eq_foldl, ← compToNL_eq] at hf
    obtain ⟨⟨X, hX, hF⟩, h2, h3⟩ := hf
    refine ⟨?_, h2.trans (congrArg (· :: []) hid), fun s t d => ?_⟩
    · rw [hX, flat_eq_flatL]; exact hF.cons (cc + 1)
    · rw [h3, hid, childIn_eq_childInL]
      exact or_iff_right fun ⟨_, he, _⟩ => nomatch he

theorem compsToNL_full (ks : List Component) (cc : Nat) (acc : NodeList) (anchor : String)
    (hanc : anchor ∈ acc.ids) (hne : ∀ x ∈ refsL ks, x ≠ "") (hnd : (acc.ids ++ refsL ks).Nodup) :
    ForestFull ks acc anchor (compsToNL ks cc acc anchor).1 :=
  compsToNL_eq_foldl anchor ks cc acc ▸ foldl_full ks (fun k _ => compToNL_full k) (acc, cc) hanc hne hnd

theorem compsToNL_nodes : ∀ (ks : List Component) (cc : Nat) (acc : NodeList) (anchor : String),
      anchor ∈ acc.ids → (∀ x ∈ refsL ks, x ≠ "") → (acc.ids ++ refsL ks).Nodup →
      ∃ X, (compsToNL ks cc acc anchor).1.nodes = acc.nodes ++ X ∧ NodesFrom (flatL ks) X :=
  fun ks cc acc anchor hanc hne hnd => (compsToNL_full ks cc acc anchor hanc hne hnd).1

/-- **the parser returns the component tree it was given**, at any nesting depth and fan-out: the
    metadata component is the sole root and the top-level components are its children -/
theorem unserCDX_full (b : Bom) (rootC : Component) (hm : b.metaComponent = some rootC)
    (hne : ∀ x ∈ rootC.refs ++ refsL b.components, x ≠ "")
    (hnd : (rootC.refs ++ refsL b.components).Nodup) :
    ∃ nl, (unserCDX b).nodeList = some nl ∧ NodesFrom (rootC.flat ++ flatL b.components) nl.nodes ∧
      nl.ids = rootC.refs ++ refsL b.components ∧ nl.roots = [rootC.bomRef] ∧
      ∀ s t d, nl.HasEdge s t d ↔ t = 5 ∧
        (ChildIn rootC s d ∨ (s = rootC.bomRef ∧ d ∈ b.components.map Component.bomRef) ∨ ChildInL b.components s d) := by
  have hrne : ∀ x ∈ rootC.refs, x ≠ "" := fun x hx => hne x (List.mem_append_left _ hx)
  have hcne : ∀ x ∈ refsL b.components, x ≠ "" := fun x hx => hne x (List.mem_append_right _ hx)
  have tr := compToNL_full rootC 0 hrne (List.nodup_append.mp hnd).1
  have t1 := tr.ids hrne
  let a0 : NodeList := ({} : NodeList).add (compToNL rootC 0).1
  obtain ⟨ha_nodes, hr0, he0⟩ := add_empty (compToNL rootC 0).1
  have ha_ids : a0.ids = rootC.refs := (congrArg (List.map Node.id) ha_nodes).trans t1
  have ha_roots : a0.roots = [rootC.bomRef] := hr0.trans tr.2.1
  have hf : ForestFull b.components a0 rootC.bomRef (topFold b.components (a0, (compToNL rootC 0).2)).1 := by
    rw [topFold_eq_compsToNL rootC.bomRef [] _ _ _ ha_roots]
    exact compsToNL_full _ _ a0 _ (ha_ids ▸ bomRef_mem_refs rootC) hcne (ha_ids ▸ hnd)
  obtain ⟨X, hX, hF⟩ := hf.1
  refine ⟨_, by rw [unserCDX_nodeList, hm]; rfl, ?_, ?_, hf.2.1.trans ha_roots, fun s t d => ?_⟩
  · rw [hX, ha_nodes]; exact tr.1.append hF
  · rw [hf.ids hcne, ha_ids]
  · rw [hf.2.2 s t d, he0, tr.2.2 s t d, t1]
    exact (or_congr_left (and_iff_left_of_imp fun h => childIn_refs rootC s d h.2)).trans and_or_left.symm

end Protobom.Cdx
