/- Lockset theorem: a well-locked program has no data race in any reachable configuration (any interleaving,
   any number of threads). -/
import Protobom.Model.Conc

namespace Protobom.Conc

/-- mutual exclusion: a lock held for writing by one thread is held by no other thread -/
def Excl (c : Cfg) : Prop :=
  ∀ i j, i ≠ j → ∀ l, (l, Mode.W) ∈ (c i).held → ∀ m, (l, m) ∉ (c j).held

structure Inv (prot : String → String) (c : Cfg) : Prop where
  wl : ∀ i, WL prot (c i).held (c i).rem
  excl : Excl c

theorem upd_same (c : Cfg) (i : Nat) (t : T) : upd c i t i = t := by simp [upd]
theorem upd_other (c : Cfg) (i j : Nat) (t : T) (h : j ≠ i) : upd c i t j = c j := by simp [upd, h]

/-- what every step has in common: thread `i` alone changes, its new state is well locked, and a
    lock it did not hold before is one it was enabled to take -/
theorem inv_upd (prot : String → String) (c : Cfg) (i : Nat) (t : T) (h : Inv prot c)
    (hwl : WL prot t.held t.rem)
    (hheld : ∀ l m, (l, m) ∈ t.held → (l, m) ∈ (c i).held ∨ enabled c i (.lock l m)) :
    Inv prot (upd c i t) := by
  have hh : ∀ k l m, (l, m) ∈ (upd c i t k).held → (l, m) ∈ (c k).held ∨ (k = i ∧ enabled c i (.lock l m)) := by
    intro k l m hm
    by_cases hk : k = i
    · subst hk; rw [upd_same] at hm; exact (hheld l m hm).imp id fun hen => ⟨rfl, hen⟩
    · rw [upd_other _ _ _ _ hk] at hm; exact Or.inl hm
  refine ⟨fun k => ?_, fun a b hab l hW m hm => ?_⟩
  · by_cases hk : k = i
    · subst hk; rw [upd_same]; exact hwl
    · rw [upd_other _ _ _ _ hk]; exact h.wl k
  · -- each of the two locks is an old one or the one `i` has just taken
    rcases hh a l _ hW with ha | ⟨rfl, hen⟩ <;> rcases hh b l m hm with hb | ⟨rfl, hen'⟩
    · exact h.excl a b hab l ha m hb
    · cases m with
      | W => exact hen' a hab Mode.W ha
      | R => exact hen' a hab ha
    · exact hen b (Ne.symm hab) m hb
    · exact absurd rfl hab

theorem Inv.wl_at {prot : String → String} {c : Cfg} (h : Inv prot c) {i : Nat} {e : Ev} {r : List Ev}
    (hrem : (c i).rem = e :: r) : WL prot (c i).held (e :: r) := hrem ▸ h.wl i

theorem step_inv (prot : String → String) (c c' : Cfg) (h : Inv prot c) (hs : Step c c') : Inv prot c' := by
  cases hs with
  | lock i l m r hrem hen =>
    refine inv_upd prot c i _ h (h.wl_at hrem).2 fun l' m' hm => ?_
    rcases List.mem_cons.mp hm with e | hm
    · cases e; exact Or.inr hen
    · exact Or.inl hm
  | unlock i l m r hrem =>
    exact inv_upd prot c i _ h (h.wl_at hrem).2 fun _ _ hm => Or.inl (List.mem_of_mem_erase hm)
  | read i x r hrem => exact inv_upd prot c i _ h (h.wl_at hrem).2 fun _ _ hm => Or.inl hm
  | write i x r hrem => exact inv_upd prot c i _ h (h.wl_at hrem).2 fun _ _ hm => Or.inl hm

theorem reach_inv (prot : String → String) (c0 c : Cfg) (h0 : Inv prot c0) (hr : Reach c0 c) : Inv prot c := by
  induction hr with
  | refl => exact h0
  | step _ hs ih => exact step_inv prot _ _ ih hs

theorem inv_no_race (prot : String → String) (c : Cfg) (h : Inv prot c) : ¬ Race c := by
  rintro ⟨i, j, x, hij, ⟨r, hw⟩, hacc⟩
  have hi : (prot x, Mode.W) ∈ (c i).held := (h.wl_at hw).1
  rcases hacc with ⟨r', hr⟩ | ⟨r', hr⟩
  · obtain ⟨m, hm⟩ := (h.wl_at hr).1
    exact h.excl i j hij (prot x) hi m hm
  · exact h.excl i j hij (prot x) hi Mode.W (h.wl_at hr).1

theorem init_inv (prot : String → String) (progs : List (List Ev)) (hwl : ∀ p ∈ progs, WL prot [] p) :
    Inv prot (initCfg progs) := by
  refine ⟨fun i => ?_, fun i j _ l hW => by simp [initCfg] at hW⟩
  simp only [initCfg, List.getD_eq_getElem?_getD]
  cases h : progs[i]? with
  | none => trivial
  | some p => exact hwl p (List.mem_of_getElem? h)

theorem well_locked_race_free (prot : String → String) (progs : List (List Ev))
    (hwl : ∀ p ∈ progs, WL prot [] p) (c : Cfg) (hr : Reach (initCfg progs) c) : ¬ Race c :=
  inv_no_race prot c (reach_inv prot _ _ (init_inv prot progs hwl) hr)

theorem critical_sections_exclusive (prot : String → String) (progs : List (List Ev))
    (hwl : ∀ p ∈ progs, WL prot [] p) (c : Cfg) (hr : Reach (initCfg progs) c) : Excl c :=
  (reach_inv prot _ _ (init_inv prot progs hwl) hr).excl

end Protobom.Conc
