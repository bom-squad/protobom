/- The CycloneDX round trip on containment forests: the serializer's component forest, through
   `flat`, is the preorder of the top-level subtrees; the parser reads it back node by node. -/
import Protobom.Proofs.Nest
import Protobom.Proofs.Cdx

namespace Protobom.Cdx
open Protobom

/-! ### the complete subtree `T x` flattens to `(sub x).map T` -/

section
variable (children : String → List String) (c0 : String → Component) (ht : String → Nat)
variable (hlt : ∀ id t, t ∈ children id → ht t < ht id)
variable (hid : ∀ x, (c0 x).bomRef = x) (hk : ∀ x, (c0 x).kids = [])
include hlt

theorem T_bomRef (x : String) : (T children c0 ht x).bomRef = (c0 x).bomRef := by
  rw [T_unfold children c0 ht hlt, bomRef_withKids]

theorem T_data (x : String) : (T children c0 ht x).data = (c0 x).data := by
  rw [T_unfold children c0 ht hlt, data_withKids]

include hk

theorem T_kids (x : String) : (T children c0 ht x).kids = (children x).map (T children c0 ht) := by
  rw [T_unfold children c0 ht hlt, kids_withKids, hk, List.nil_append]

theorem T_flat : ∀ x, (T children c0 ht x).flat = (sub children ht x).map (T children c0 ht) :=
  forest_ind children ht hlt fun x ih => by
    rw [flat_eq, T_kids children c0 ht hlt hk, List.flatMap_map, sub_unfold children ht hlt, List.map_cons,
      List.map_flatMap]
    exact congrArg _ (flatMap_congr' ih)

include hid

theorem T_refs (x : String) : (T children c0 ht x).refs = sub children ht x := by
  rw [refs_eq_flat, T_flat children c0 ht hlt hk, List.map_map]
  exact (List.map_congr_left fun y _ => (T_bomRef children c0 ht hlt y).trans (hid y)).trans (List.map_id _)

end

/-! ### root, then the top-level subtrees in preorder: every known identifier, each once -/

/-- the identifiers of the top-level components: the dictionary keys that are not marked as nested -/
def topsOf (dict : List (String × Component)) (placed : List String) : List String :=
  (dict.filter (fun kv => decide (kv.1 ∉ placed))).map (·.1)

theorem mem_topsOf {dict : List (String × Component)} {placed : List String} {t : String} :
    t ∈ topsOf dict placed ↔ (dict.lookup t).isSome = true ∧ t ∉ placed := by
  rw [topsOf, List.mem_map]
  constructor
  · rintro ⟨kv, hkv, rfl⟩
    rw [List.mem_filter] at hkv
    exact ⟨lookup_isSome_of_mem dict kv hkv.1, by simpa using hkv.2⟩
  · rintro ⟨hD, hn⟩
    obtain ⟨kv, hkv, hk⟩ := List.mem_map.mp (lookup_isSome_iff_key.mp hD)
    exact ⟨kv, List.mem_filter.mpr ⟨hkv, by rw [hk]; simpa using hn⟩, hk⟩

section
variable (children : String → List String) (ht : String → Nat) (root : String) (dict : List (String × Component))
  (F : Forest children ht (fun x => (dict.lookup x).isSome = true) [root]) (placed : List String)
  (hpl : ∀ x, x ∈ placed ↔ Nested dict children root x)
include F hpl

theorem forest_preorder_nodup (hkeys : (dict.map (·.1)).Nodup) :
    (root :: (topsOf dict placed).flatMap (sub children ht)).Nodup := by
  -- the root is in no subtree of a top-level node: it is nested, and nobody contains it
  have hroot_out : ∀ t ∈ topsOf dict placed, root ∉ sub children ht t := fun t ht' hmem =>
    have ⟨p, _, hc⟩ := sub_parent children ht F.lt t root hmem
      fun e => (mem_topsOf.mp ht').2 (e ▸ (hpl root).mpr (.inl rfl))
    F.p0 p root hc List.mem_cons_self
  refine List.nodup_cons.mpr ⟨fun hmem => have ⟨t, ht', hr⟩ := List.mem_flatMap.mp hmem; hroot_out t ht' hr,
    flatMap_sub_nodup children ht F.lt F.par (keyUnique_filter _ hkeys) (fun t _ => sub_nodup children ht F.lt F.par F.nd t)
      fun a ha b hb hab hmem => ?_⟩
  -- a top-level node in the subtree of another would have a known parent other than the root
  obtain ⟨p, hp, hc⟩ := sub_parent children ht F.lt b a hmem hab
  exact (mem_topsOf.mp ha).2 ((hpl a).mpr (.inr ⟨p, fun e => hroot_out b hb (e ▸ hp),
    sub_mem_dom children ht F.lt _ F.dom b p (mem_topsOf.mp hb).1 hp, hc⟩))

theorem forest_preorder_covers (hroot : (dict.lookup root).isSome = true) (B : Nat) (hB : ∀ x, ht x < B) (x : String) :
    x ∈ root :: (topsOf dict placed).flatMap (sub children ht) ↔ (dict.lookup x).isSome = true := by
  rw [List.mem_cons, List.mem_flatMap]
  constructor
  · rintro (rfl | ⟨t, ht', hx⟩)
    · exact hroot
    · exact sub_mem_dom children ht F.lt _ F.dom t x (mem_topsOf.mp ht').1 hx
  · intro hD
    refine (Classical.em (x = root)).imp_right fun hx => ?_
    obtain ⟨t, htD, htn, hsub⟩ := top_above children ht _ root F B hB x hD hx
    exact ⟨t, mem_topsOf.mpr ⟨htD, fun h => htn ((hpl t).mp h)⟩, hsub⟩

end

theorem getNodeByID_known {nl : NodeList} {root : String} {n : Node} (h : nl.getNodeByID root = some n) (hid : n.id = root) :
    ((dictOf nl.nodes).lookup root).isSome = true :=
  (dictOf_known nl.nodes root).mpr (List.mem_map.mpr ⟨n, List.mem_of_find?_eq_some h, hid⟩)

section
variable {d : Document} {md : Metadata} {nl : NodeList} {root : String} {rootNode : Node}
  {lcs : List Lifecycle} {p1 : Pass1} {ht : String → Nat}

/-- the identifiers the nesting pass marks as nested, as a list: the root, then what the known
    nodes other than the root contain -/
def ForestDoc.nested (_ : ForestDoc d md nl root rootNode lcs p1 ht) : List String :=
  root :: (((dictOf nl.nodes).map (·.1)).filter (· ≠ root)).flatMap (childrenOf p1)

def ForestDoc.tops (H : ForestDoc d md nl root rootNode lcs p1 ht) : List String := topsOf (dictOf nl.nodes) H.nested

/-- what the serializer emits below the root, in its order: the top-level identifiers, each
    followed by its subtree in preorder -/
def ForestDoc.below (H : ForestDoc d md nl root rootNode lcs p1 ht) : List String :=
  H.tops.flatMap (sub (childrenOf p1) ht)

theorem ForestDoc.mem_nested (H : ForestDoc d md nl root rootNode lcs p1 ht) (x : String) :
    x ∈ H.nested ↔ Nested (dictOf nl.nodes) (childrenOf p1) root x := by
  simp only [ForestDoc.nested, Nested, List.mem_cons, List.mem_flatMap, List.mem_filter, decide_eq_true_eq,
    lookup_isSome_iff_key, and_assoc, and_left_comm]

theorem ForestDoc.below_known (H : ForestDoc d md nl root rootNode lcs p1 ht) :
    ∀ x ∈ H.below, ((dictOf nl.nodes).lookup x).isSome = true := fun x hx =>
  have ⟨t, ht', hxt⟩ := List.mem_flatMap.mp hx
  sub_mem_dom _ ht H.F.lt _ H.F.dom t x (mem_topsOf.mp ht').1 hxt

theorem ForestDoc.ser (H : ForestDoc d md nl root rootNode lcs p1 ht) :
    ∃ b : Bom, serCDX d = .ok b ∧
      b.components = clearAutoL (H.tops.map (T (childrenOf p1) (comp0 (dictOf nl.nodes)) ht)) ∧
      b.metaComponent = some (rootComp md rootNode) := by
  obtain ⟨b, placed, hser, hpl, hcomps, _, hmeta⟩ := H.ser_c0 (comp0 (dictOf nl.nodes)) fun _ _ => comp0_of_lookup
  refine ⟨b, hser, ?_, hmeta⟩
  -- the list the nesting pass leaves has the members of `H.nested`, and only membership is asked
  have : (fun kv : String × Component => decide (kv.1 ∉ placed)) = fun kv => decide (kv.1 ∉ H.nested) :=
    funext fun kv => decide_eq_decide.mpr (not_congr ((hpl kv.1).trans (H.mem_nested kv.1).symm))
  rw [hcomps, this, ForestDoc.tops, topsOf, List.map_map]; rfl

theorem ForestDoc.preorder (H : ForestDoc d md nl root rootNode lcs p1 ht) :
    (root :: H.below).Nodup ∧ ∀ x, x ∈ root :: H.below ↔ x ∈ nl.ids :=
  ⟨forest_preorder_nodup (childrenOf p1) ht root (dictOf nl.nodes) H.F _ H.mem_nested (dictOf_keys_nodup nl.nodes),
   fun x => (forest_preorder_covers (childrenOf p1) ht root (dictOf nl.nodes) H.F _ H.mem_nested
      (getNodeByID_known H.hroot H.hrid) _ H.hht x).trans (dictOf_known nl.nodes x)⟩

/-- identifiers that look generated are blanked by `clearAutoRefs`, hence `hids` -/
theorem ForestDoc.ser_refs (H : ForestDoc d md nl root rootNode lcs p1 ht)
    (hids : ∀ x, ((dictOf nl.nodes).lookup x).isSome = true → isAutoRef x = false) :
    ∃ b : Bom, serCDX d = .ok b ∧ b.metaComponent = some (rootComp md rootNode) ∧
      (rootComp md rootNode).refs ++ refsL b.components = root :: H.below := by
  obtain ⟨b, hser, hcomps, hmeta⟩ := H.ser
  refine ⟨b, hser, hmeta, ?_⟩
  have hrs := rootComp_shape md rootNode
  have hsh := comp0_shape nl.nodes
  rw [refs_eq, hrs.2, hrs.1, H.hrid, hcomps, refsL_eq, clearAutoL_eq, List.flatMap_map, List.flatMap_map]
  refine congrArg _ (flatMap_congr' fun t ht' => ?_)
  have hr := T_refs _ _ ht H.F.lt (fun x => (hsh x).1) (fun x => (hsh x).2) t
  rw [clearAuto_refs _ (hr ▸ fun x hx => hids x (H.below_known x (List.mem_flatMap.mpr ⟨t, ht', hx⟩))), hr]

end

/-! ### the emitted forest after the codec, through `flat` -/

section
variable (v : Nat) (children : String → List String) (ht : String → Nat) (nodes : List Node)
variable (hlt : ∀ id t, t ∈ children id → ht t < ht id)

/-- the component the parser receives for the identifier `x` -/
def outComp (x : String) : Component := convComp v (clearAuto (T children (comp0 (dictOf nodes)) ht x))

include hlt

theorem flatL_out (tops : List String) :
    flatL (convCompL v (clearAutoL (tops.map (T children (comp0 (dictOf nodes)) ht)))) =
      (tops.flatMap (sub children ht)).map (outComp v children ht nodes) := by
  rw [convCompL_eq, clearAutoL_eq, flatL_hom _ (convComp_kids v), flatL_hom _ clearAuto_kids, flatL_eq,
    List.flatMap_map, List.map_map, List.map_flatMap, List.map_flatMap]
  exact flatMap_congr' fun t _ => by
    rw [T_flat children _ ht hlt (fun x => (comp0_shape nodes x).2), List.map_map]; rfl

theorem outComp_bomRef (x : String) (hx : isAutoRef x = false) : (outComp v children ht nodes x).bomRef = x := by
  have h0 : (T children (comp0 (dictOf nodes)) ht x).bomRef = x :=
    (T_bomRef children _ ht hlt x).trans (comp0_shape nodes x).1
  rw [outComp, convComp_bomRef, clearAuto_bomRef _ (h0.symm ▸ hx), h0]

theorem outComp_bomRefs (l : List String) (hl : ∀ y ∈ l, isAutoRef y = false) :
    (l.map (outComp v children ht nodes)).map Component.bomRef = l := by
  rw [List.map_map]
  exact (List.map_congr_left fun y hy => outComp_bomRef v children ht nodes hlt y (hl y hy)).trans (List.map_id _)

theorem outComp_data (x : String) (hx : isAutoRef x = false) :
    (outComp v children ht nodes x).data = convComp v (comp0 (dictOf nodes) x) := by
  rw [outComp, convComp_data, clearAuto_data, T_data children _ ht hlt, data_of_kids_nil _ (comp0_shape nodes x).2,
    clearAuto_of_not_auto _ ((comp0_shape nodes x).1.symm ▸ hx) (comp0_shape nodes x).2]

theorem outComp_kids (x : String) :
    (outComp v children ht nodes x).kids = (children x).map (outComp v children ht nodes) := by
  rw [outComp, convComp_kids, clearAuto_kids, T_kids children _ ht hlt (fun x => (comp0_shape nodes x).2),
    List.map_map, List.map_map]; rfl

end

section
variable {d : Document} {md : Metadata} {nl : NodeList} {root : String} {rootNode : Node}
  {lcs : List Lifecycle} {p1 : Pass1} {ht : String → Nat}

/-- the round trip of a containment forest in one statement: the nodes position by position
    (nothing of a node depends on where it is nested), the identifiers, the root element, the
    edges; the forest theorems of Props/C02.lean are projections of it -/
theorem ForestDoc.rt (H : ForestDoc d md nl root rootNode lcs p1 ht) (v : Nat)
    (hids : ∀ x, ((dictOf nl.nodes).lookup x).isSome = true → x ≠ "" ∧ isAutoRef x = false) :
    ∃ d' nl', rtCDX v d = .ok d' ∧ d'.nodeList = some nl' ∧
      nl'.nodes = componentToNode (convComp v (rootComp md rootNode)) 0 ::
        H.below.map (fun x => componentToNode (convComp v (comp0 (dictOf nl.nodes) x)) 0) ∧
      nl'.ids = root :: H.below ∧ nl'.roots = [root] ∧
      ∀ s t x, nl'.HasEdge s t x ↔ t = 5 ∧ ((s = root ∧ x ∈ H.tops) ∨ (s ∈ H.below ∧ x ∈ childrenOf p1 s)) := by
  obtain ⟨b, hser, hcomps, hmeta⟩ := H.ser
  have hD := H.below_known
  have hnd := H.preorder.1
  unfold ForestDoc.below at hD hnd ⊢
  generalize H.tops = tops at hD hcomps hnd ⊢
  generalize hL : tops.flatMap (sub (childrenOf p1) ht) = L at hD hnd ⊢
  have hDroot := getNodeByID_known H.hroot H.hrid
  have hrs := rootComp_shape md rootNode
  rw [H.hrid] at hrs
  have hout := fun x hx => outComp_bomRef v _ ht nl.nodes H.F.lt x (hids x hx).2
  have houtk : ∀ x, ((dictOf nl.nodes).lookup x).isSome = true →
      (outComp v (childrenOf p1) ht nl.nodes x).kids.map Component.bomRef = childrenOf p1 x := fun x hx => by
    rw [outComp_kids v _ ht nl.nodes H.F.lt]
    exact outComp_bomRefs v _ ht nl.nodes H.F.lt _ fun y hy => (hids y (H.F.dom x y hx hy)).2
  have htL : ∀ t ∈ tops, t ∈ L := fun t h => hL ▸ List.mem_flatMap.mpr ⟨t, h, mem_sub_self _ _ t⟩
  have hm' : (codecCDX v b).metaComponent = some (convComp v (rootComp md rootNode)) := by
    simp only [codecCDX, hmeta, Option.map_some]
  have hcomps' : (codecCDX v b).components = tops.map (outComp v (childrenOf p1) ht nl.nodes) := by
    show convCompL v b.components = _
    rw [hcomps, convCompL_eq, clearAutoL_eq, List.map_map, List.map_map]; rfl
  have hflat : flatL (codecCDX v b).components = L.map (outComp v (childrenOf p1) ht nl.nodes) := by
    show flatL (convCompL v b.components) = _
    rw [hcomps, flatL_out v _ ht nl.nodes H.F.lt, hL]
  have hrefs : refsL (codecCDX v b).components = L := by
    rw [refsL_eq_flatL, hflat]
    exact outComp_bomRefs v _ ht nl.nodes H.F.lt _ fun x hx => (hids x (hD x hx)).2
  have hrk : (convComp v (rootComp md rootNode)).kids = [] := by rw [convComp_kids, hrs.2]; rfl
  have hrr : (convComp v (rootComp md rootNode)).refs = [root] := by
    rw [refs_eq, hrk, convComp_bomRef, hrs.1]; rfl
  have hall : (convComp v (rootComp md rootNode)).refs ++ refsL (codecCDX v b).components = root :: L := by
    rw [hrr, hrefs]; rfl
  have hne : ∀ x ∈ (convComp v (rootComp md rootNode)).refs ++ refsL (codecCDX v b).components, x ≠ "" :=
    hall ▸ List.forall_mem_cons.mpr ⟨(hids _ hDroot).1, fun x h => (hids x (hD x h)).1⟩
  obtain ⟨nl', h1, hN, h2, h3, h4⟩ := unserCDX_full (codecCDX v b) _ hm' hne (hall ▸ hnd)
  refine ⟨_, nl', ?_, h1, ?_, h2.trans hall, ?_, ?_⟩
  · simp only [rtCDX, hser, Outcome.map, Outcome.bind]
  · -- with non-empty references a node is `componentToNode · 0` of the data of its component
    rw [hN.eq_map fun c hc => hne _ (by
        rw [refs_eq_flat, refsL_eq_flatL, ← List.map_append]; exact List.mem_map_of_mem hc),
      flat_eq, hrk, List.flatMap_nil, hflat, List.map_append, List.map_map]
    exact congrArg _ (List.map_congr_left fun x hx => by
      show componentToNode (outComp v (childrenOf p1) ht nl.nodes x) 0 = _
      rw [componentToNode_data, outComp_data v _ ht nl.nodes H.F.lt x (hids x (hD x hx)).2])
  · rw [h3, convComp_bomRef, hrs.1]
  · intro s t x
    rw [h4 s t x, convComp_bomRef, hrs.1, childInL_iff_flatL, hflat, hcomps',
      outComp_bomRefs v _ ht nl.nodes H.F.lt tops fun t h => (hids t (hD t (htL t h))).2]
    refine and_congr Iff.rfl ⟨?_, ?_⟩
    · rintro (h | h | ⟨_, hp, rfl, hx⟩)
      · exact absurd h (not_childIn_of_kids_nil hrk s x)
      · exact Or.inl h
      · obtain ⟨y, hy, rfl⟩ := List.mem_map.mp hp
        rw [houtk y (hD y hy)] at hx
        rw [hout y (hD y hy)]
        exact Or.inr ⟨hy, hx⟩
    · rintro (h | ⟨hs, hx⟩)
      · exact Or.inr (Or.inl h)
      · exact Or.inr (Or.inr ⟨_, List.mem_map_of_mem hs, (hout s (hD s hs)).symm, by rw [houtk s (hD s hs)]; exact hx⟩)

end

end Protobom.Cdx
