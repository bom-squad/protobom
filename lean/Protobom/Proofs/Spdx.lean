/- SPDX 2.3 round trip, graph level: the relationship-type table (checked by evaluation), the tools-golang codec
   as the identity on what the serializer writes, the parser on the relationships written. -/
import Protobom.Model.Spdx
import Protobom.Proofs.CleanEdges
import Protobom.Proofs.Lists

namespace Protobom.Spdx
open Protobom Gen

/-! ### the relationship types (table regenerated from the Go source: facts about it are checked by evaluation) -/

theorem edge_types_roundtrip :
    ∀ nt ∈ Schema.edgeTypes, nt.2 ≠ 0 → edgeFromSPDX2 (edgeToSPDX2 nt.2) = nt.2 := by decide +kernel

/-- the SPDX names of the relationship types are pairwise different and none of them is empty -/
theorem edge_names_injective :
    ((Schema.edgeTypes.filter (·.2 ≠ 0)).map (fun nt => edgeToSPDX2 nt.2)).Nodup ∧
    ∀ nt ∈ Schema.edgeTypes, nt.2 ≠ 0 → edgeToSPDX2 nt.2 ≠ "" := by
  -- both follow from `edge_types_roundtrip`: on the numbers 1 … 44 the name table has a left inverse,
  -- and the empty name reads back as 0
  have h0 : edgeFromSPDX2 "" = 0 := by decide +kernel
  have hnum : (Schema.edgeTypes.filter (·.2 ≠ 0)).map (·.2) = (List.range' 1 44).map Int.ofNat := by decide +kernel
  refine ⟨?_, fun nt hnt hne he => hne ?_⟩
  · -- `rw [hnum]`, not `hnum ▸ _`: elaborating the latter, the unifier evaluates the table
    have hnd : ((Schema.edgeTypes.filter (·.2 ≠ 0)).map (·.2)).Nodup := by
      rw [hnum]
      exact nodup_map_of_leftInverse Int.ofNat Int.toNat (fun _ _ => rfl) List.nodup_range'
    have := nodup_map_of_leftInverse edgeToSPDX2 edgeFromSPDX2 (fun a ha => by
      obtain ⟨nt, hnt, rfl⟩ := List.mem_map.mp ha
      have := List.mem_filter.mp hnt
      exact edge_types_roundtrip nt this.1 (by simpa using this.2)) hnd
    rwa [List.map_map] at this
  · rw [← edge_types_roundtrip nt hnt hne, he, h0]

/-! ### the tools-golang codec as the identity, the parser on the relationships written -/

theorem splitFirstL_prefix (sep rest acc : List Char) (h : sep ≠ []) :
    Str.splitFirstL sep acc (sep ++ rest) = some (acc.reverse, rest) := by
  cases sep with
  | nil => exact absurd rfl h
  | cons c cs =>
    simp only [List.cons_append, Str.splitFirstL]
    have : (c :: cs).isPrefixOf (c :: (cs ++ rest)) = true := by
      rw [← List.cons_append]; exact List.isPrefixOf_iff_prefix.mpr (List.prefix_append _ _)
    simp [this]

/-- an identifier that does not already start with `SPDXRef-` is unchanged by the codec -/
theorem codecId_of_noPrefix (s : String) (h : Str.hasPrefix s "SPDXRef-" = false) : codecId s = s := by
  unfold codecId
  simp only [h, Bool.false_eq_true, if_false]
  unfold Str.splitFirst
  have : ("SPDXRef-" ++ s).toList = "SPDXRef-".toList ++ s.toList := String.toList_append
  rw [this, splitFirstL_prefix _ _ _ (by decide)]
  exact String.ofList_toList

theorem mapOutcome_id {α} (f : α → Outcome α) (l : List α) (h : ∀ a ∈ l, f a = .ok a) :
    mapOutcome f l = .ok l := by
  induction l with
  | nil => rfl
  | cons a as ih =>
    simp only [mapOutcome, h a List.mem_cons_self, Outcome.bind, Outcome.map,
      ih (fun b hb => h b (List.mem_cons_of_mem _ hb))]

theorem codecSPDX_id (s : Doc) (hc : ∀ c ∈ s.creators, c.2 ≠ "") (hp : ∀ p ∈ s.packages, codecPackage p = .ok p)
    (hf : ∀ f ∈ s.files, codecId f.id = f.id)
    (hr : ∀ r ∈ s.rels, codecId r.a = r.a ∧ r.a ≠ "" ∧ codecId r.b = r.b ∧ r.b ≠ "") : codecSPDX s = .ok s := by
  have hcre : s.creators.any (fun c => c.2 = "") = false := List.any_eq_false.mpr fun c h => by simpa using hc c h
  have hfiles : s.files.map (fun f => { f with id := codecId f.id }) = s.files :=
    (List.map_congr_left fun f h => by rw [hf f h]).trans (List.map_id' _)
  have hrels : mapOutcome codecRel s.rels = .ok s.rels := mapOutcome_id _ _ fun r h => by
    obtain ⟨h1, h2, h3, h4⟩ := hr r h
    simp [codecRel, h1, h2, h3, h4]
  simp only [codecSPDX, hcre, mapOutcome_id _ _ hp, hrels, hfiles, Outcome.bind, Outcome.map, Bool.false_eq_true, if_false]

/-- the serializer's two lists (every node that is not a FILE, every node that is not a PACKAGE)
    split the nodes when each is a PACKAGE or a FILE -/
theorem packages_files_perm (nodes : List Node) (hk : ∀ n ∈ nodes, n.typ = 0 ∨ n.typ = 1) :
    (nodes.filter (·.typ ≠ 1) ++ nodes.filter (·.typ ≠ 0)).Perm nodes := by
  have : nodes.filter (·.typ ≠ 0) = nodes.filter (fun n => !decide (n.typ ≠ 1)) :=
    List.filter_congr fun n hn => by rcases hk n hn with h0 | h0 <;> simp [h0]
  rw [this]
  exact List.filter_append_perm _ _

/-- the relationships the serializer writes for the edges -/
def edgeRels (es : List Edge) : List Rel :=
  es.flatMap (fun e => e.tos.map (fun d => { a := e.src, rel := edgeToSPDX2 e.ty, b := d }))

/-- reading the edge relationships back: one single-target edge per (edge, target) -/
def edgesBack (es : List Edge) : List Edge :=
  (edgeRels es).map (fun r => { ty := edgeFromSPDX2 r.rel, src := r.a, tos := [r.b] })

theorem unserSPDX_relsOf (s : Doc) (nl : NodeList) (hs : s.rels = relsOf nl)
    (hne : ∀ r ∈ relsOf nl, r.a ≠ "" ∧ r.b ≠ "") (hsrc : ∀ e ∈ nl.edges, e.src ≠ "DOCUMENT") :
    (unserSPDX s).nodeList = some
      { nodes := s.packages.map packageToNode ++ s.files.map fileToNode, edges := edgesBack nl.edges, roots := nl.roots } := by
  have hne' : (relsOf nl).filter (fun r => decide (r.a ≠ "" ∧ r.b ≠ "")) = relsOf nl :=
    List.filter_eq_self.mpr fun r hr => decide_eq_true (hne r hr)
  -- of the relationships written, those for the roots are the ones the parser takes for roots
  obtain ⟨h1, h2⟩ := filter_append_split (fun r : Rel => r.a = "DOCUMENT" ∧ equalFoldAscii r.rel "DESCRIBES")
    (edgeRels nl.edges) (nl.roots.map fun x => { a := "DOCUMENT", rel := "DESCRIBES", b := x })
    (fun r hr => by
      obtain ⟨e, he, hr'⟩ := List.mem_flatMap.mp hr
      obtain ⟨x, _, rfl⟩ := List.mem_map.mp hr'
      simp [hsrc e he])
    (fun r hr => by
      obtain ⟨x, _, rfl⟩ := List.mem_map.mp hr
      simp [equalFoldAscii])
  simp only [unserSPDX, hs, hne']
  rw [show relsOf nl = edgeRels nl.edges ++ _ from rfl, h1, h2]
  simp [edgesBack, Function.comp_def]

theorem hasEdge_edgesBack (es : List Edge) (ht : ∀ e ∈ es, edgeFromSPDX2 (edgeToSPDX2 e.ty) = e.ty)
    (s : String) (t : Int) (d : String) : HasEdgeL (edgesBack es) s t d ↔ HasEdgeL es s t d := by
  unfold edgesBack edgeRels HasEdgeL
  simp only [List.mem_map, List.mem_flatMap]
  constructor
  · rintro ⟨e', ⟨r, ⟨e, he, x, hx, rfl⟩, rfl⟩, h1, h2, h3⟩
    simp only at h1 h2 h3
    refine ⟨e, he, h1, ?_, ?_⟩
    · rw [← h2]; exact (ht e he).symm
    · simp only [List.mem_singleton] at h3; rw [h3]; exact hx
  · rintro ⟨e, he, h1, h2, h3⟩
    exact ⟨_, ⟨_, ⟨e, he, d, h3, rfl⟩, rfl⟩, h1, by simp only; rw [ht e he]; exact h2, by simp⟩

end Protobom.Spdx
