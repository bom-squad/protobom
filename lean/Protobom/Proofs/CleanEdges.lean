/-
  Set-level vocabulary (ids, HasEdge, WF, Normal, ≃), the two central lemmas about `cleanEdges` (it
  refines "restrict the edge relation to present nodes" and it normalises), and `Sem`, the form in
  which every operation is described on the three sets.
-/
import Protobom.Model.Graph

namespace Protobom

/-- `(s, t, d)` is in the edge relation of the edge list -/
def HasEdgeL (es : List Edge) (s : String) (t : Int) (d : String) : Prop :=
  ∃ e ∈ es, e.src = s ∧ e.ty = t ∧ d ∈ e.tos

def NodeList.HasEdge (nl : NodeList) (s : String) (t : Int) (d : String) : Prop :=
  HasEdgeL nl.edges s t d

/-- every edge source, edge target and root names a present node; identifiers are unique -/
structure NodeList.WF (nl : NodeList) : Prop where
  nodup : nl.ids.Nodup
  src : ∀ e ∈ nl.edges, e.src ∈ nl.ids
  dst : ∀ e ∈ nl.edges, ∀ d ∈ e.tos, d ∈ nl.ids
  roots : ∀ r ∈ nl.roots, r ∈ nl.ids

/-- at most one edge per source and type, no repeated targets -/
structure NormalL (es : List Edge) : Prop where
  keys : (es.map Edge.key).Nodup
  tos : ∀ e ∈ es, e.tos.Nodup

def NodeList.Normal (nl : NodeList) : Prop := NormalL nl.edges

/-- same identifier set, same root set, same edge relation -/
structure NodeList.Equiv (a b : NodeList) : Prop where
  ids : ∀ x, x ∈ a.ids ↔ x ∈ b.ids
  roots : ∀ x, x ∈ a.roots ↔ x ∈ b.roots
  edges : ∀ s t d, a.HasEdge s t d ↔ b.HasEdge s t d

infix:50 " ≃ₙ " => NodeList.Equiv

theorem NodeList.Equiv.symm {a b : NodeList} (h : a ≃ₙ b) : b ≃ₙ a :=
  ⟨fun x => (h.ids x).symm, fun x => (h.roots x).symm, fun s t d => (h.edges s t d).symm⟩

theorem hasEdgeL_nil (s t d) : ¬ HasEdgeL [] s t d := by simp [HasEdgeL]

theorem hasEdgeL_cons (e : Edge) (es : List Edge) (s t d) :
    HasEdgeL (e :: es) s t d ↔ ((s, t) = e.key ∧ d ∈ e.tos) ∨ HasEdgeL es s t d := by
  simp only [HasEdgeL, Edge.key, List.mem_cons, exists_eq_or_imp, Prod.mk.injEq, and_assoc,
    eq_comm (a := s), eq_comm (a := t)]

theorem hasEdgeL_single (e : Edge) (s t d) : HasEdgeL [e] s t d ↔ (s, t) = e.key ∧ d ∈ e.tos := by
  rw [hasEdgeL_cons, or_iff_left (hasEdgeL_nil s t d)]

theorem hasEdgeL_append (es fs : List Edge) (s t d) :
    HasEdgeL (es ++ fs) s t d ↔ HasEdgeL es s t d ∨ HasEdgeL fs s t d := by
  simp only [HasEdgeL, List.mem_append, or_and_right, exists_or]

theorem hasEdgeL_filter_src (es : List Edge) (p : String → Prop) [DecidablePred p] (s t d) :
    HasEdgeL (es.filter (fun e => p e.src)) s t d ↔ HasEdgeL es s t d ∧ p s := by
  unfold HasEdgeL
  simp only [List.mem_filter, decide_eq_true_eq]
  constructor
  · rintro ⟨e, ⟨he, hp⟩, rfl, h2, h3⟩; exact ⟨⟨e, he, rfl, h2, h3⟩, hp⟩
  · rintro ⟨⟨e, he, rfl, h2, h3⟩, hp⟩; exact ⟨e, ⟨he, hp⟩, rfl, h2, h3⟩

/-- the targets `cleanEdgesL` collects for the key `k` -/
def cleanTos (ids : List String) (es : List Edge) (k : Key) : List String :=
  ((((es.filter (·.src ∈ ids)).filter (·.key = k)).flatMap (·.tos)).filter (· ∈ ids)).eraseDups

theorem mem_cleanTos (ids : List String) (es : List Edge) (s : String) (t : Int) (d : String) :
    d ∈ cleanTos ids es (s, t) ↔ HasEdgeL es s t d ∧ s ∈ ids ∧ d ∈ ids := by
  simp only [cleanTos, HasEdgeL, Edge.key, List.mem_eraseDups, List.mem_filter, List.mem_flatMap,
    decide_eq_true_eq, Prod.mk.injEq]
  exact ⟨fun ⟨⟨e, ⟨⟨he, hs⟩, h1, h2⟩, hd⟩, hdi⟩ => ⟨⟨e, he, h1, h2, hd⟩, h1 ▸ hs, hdi⟩,
    fun ⟨⟨e, he, h1, h2, hd⟩, hs, hdi⟩ => ⟨⟨e, ⟨⟨he, h1 ▸ hs⟩, h1, h2⟩, hd⟩, hdi⟩⟩

theorem cleanEdgesL_eq (ids : List String) (es : List Edge) :
    cleanEdgesL ids es = ((((es.filter (·.src ∈ ids)).map Edge.key).eraseDups.map
      fun k => ({ src := k.1, ty := k.2, tos := cleanTos ids es k } : Edge)).filter (!·.tos.isEmpty)) := rfl

theorem cleanEdgesL_rel (ids : List String) (es : List Edge) (s : String) (t : Int) (d : String) :
    HasEdgeL (cleanEdgesL ids es) s t d ↔ HasEdgeL es s t d ∧ s ∈ ids ∧ d ∈ ids := by
  rw [← mem_cleanTos, cleanEdgesL_eq]
  simp only [HasEdgeL, List.mem_filter, List.mem_map, List.mem_eraseDups]
  constructor
  · rintro ⟨_, ⟨⟨k, _, rfl⟩, _⟩, rfl, rfl, hd⟩; exact hd
  · intro hd
    obtain ⟨⟨e, he, rfl, rfl, _⟩, hs, _⟩ := (mem_cleanTos ..).mp hd
    exact ⟨_, ⟨⟨e.key, ⟨e, ⟨he, decide_eq_true hs⟩, rfl⟩, rfl⟩, by
      simp only [Bool.not_eq_true', List.isEmpty_eq_false_iff_exists_mem]; exact ⟨d, hd⟩⟩, rfl, rfl, hd⟩

theorem cleanEdgesL_normal (ids : List String) (es : List Edge) : NormalL (cleanEdgesL ids es) := by
  rw [cleanEdgesL_eq]
  refine ⟨?_, fun e he => ?_⟩
  · -- the keys of the built edges are a sublist of the duplicate-free key list
    refine List.Nodup.sublist (List.filter_sublist.map _) ?_
    rw [List.map_map]
    exact (List.map_congr_left (g := id) fun _ _ => rfl).trans (List.map_id _) ▸ nodup_eraseDups _
  · obtain ⟨k, _, rfl⟩ := List.mem_map.mp (List.mem_filter.mp he).1
    exact nodup_eraseDups _

theorem cleanEdges_rel (nl : NodeList) (s t d) :
    nl.cleanEdges.HasEdge s t d ↔ nl.HasEdge s t d ∧ s ∈ nl.ids ∧ d ∈ nl.ids :=
  cleanEdgesL_rel nl.ids nl.edges s t d

theorem cleanEdges_normal (nl : NodeList) : nl.cleanEdges.Normal := cleanEdgesL_normal _ _

@[simp] theorem cleanEdges_ids (nl : NodeList) : nl.cleanEdges.ids = nl.ids := rfl
@[simp] theorem cleanEdges_nodes (nl : NodeList) : nl.cleanEdges.nodes = nl.nodes := rfl
@[simp] theorem cleanEdges_roots (nl : NodeList) : nl.cleanEdges.roots = nl.roots := rfl

/-- What a result is on the three sets every property speaks of: its node set is `I`, its root
    set `R`, its edge relation `E` cut down to `I`. Each operation gets one lemma of this form. -/
structure Sem (r : NodeList) (I R : String → Prop) (E : String → Int → String → Prop) : Prop where
  ids : ∀ x, x ∈ r.ids ↔ I x
  roots : ∀ x, x ∈ r.roots ↔ R x
  edges : ∀ s t d, r.HasEdge s t d ↔ E s t d ∧ I s ∧ I d

theorem Sem.clean {nl : NodeList} {I R E} (hI : ∀ x, x ∈ nl.ids ↔ I x) (hR : ∀ x, x ∈ nl.roots ↔ R x)
    (hE : ∀ s t d, nl.HasEdge s t d ↔ E s t d) : Sem nl.cleanEdges I R E :=
  ⟨hI, hR, fun s t d => by rw [cleanEdges_rel, hE, hI, hI]⟩

theorem cleanEdges_sem (a : NodeList) : Sem a.cleanEdges (· ∈ a.ids) (· ∈ a.roots) a.HasEdge :=
  Sem.clean (fun _ => .rfl) (fun _ => .rfl) (fun _ _ _ => .rfl)

theorem Sem.self {a : NodeList} (h : ∀ s t d, a.HasEdge s t d → s ∈ a.ids ∧ d ∈ a.ids) :
    Sem a (· ∈ a.ids) (· ∈ a.roots) a.HasEdge :=
  ⟨fun _ => .rfl, fun _ => .rfl, fun s t d => (and_iff_left_of_imp (h s t d)).symm⟩

theorem Sem.edges_congr {r : NodeList} {I R E E'} (h : Sem r I R E)
    (hE : ∀ s t d, I s → I d → (E s t d ↔ E' s t d)) : Sem r I R E' :=
  ⟨h.ids, h.roots, fun s t d => (h.edges s t d).trans (and_congr_left fun hI => hE s t d hI.1 hI.2)⟩

theorem Sem.equiv {a b : NodeList} {I R E I' R' E'} (ha : Sem a I R E) (hb : Sem b I' R' E')
    (hI : ∀ x, I x ↔ I' x) (hR : ∀ x, R x ↔ R' x)
    (hE : ∀ s t d, I s → I d → (E s t d ↔ E' s t d)) : a ≃ₙ b :=
  ⟨fun x => by rw [ha.ids, hb.ids, hI], fun x => by rw [ha.roots, hb.roots, hR],
   fun s t d => by rw [(ha.edges_congr hE).edges, hb.edges, hI, hI]⟩

theorem Sem.rel {r : NodeList} {I R E} (h : Sem r I R E) (s t d) :
    r.HasEdge s t d ↔ E s t d ∧ s ∈ r.ids ∧ d ∈ r.ids := by rw [h.edges, h.ids, h.ids]

theorem Sem.closed {r : NodeList} {I R E} (h : Sem r I R E) {s t d} (he : r.HasEdge s t d) :
    s ∈ r.ids ∧ d ∈ r.ids := ((h.rel s t d).mp he).2

theorem Sem.empty {r : NodeList} {I R E} (h : Sem r I R E) (hI : ∀ x, ¬ I x) (hR : ∀ x, R x → I x) :
    r.ids = [] ∧ r.roots = [] ∧ ∀ s t d, ¬ r.HasEdge s t d :=
  ⟨List.eq_nil_iff_forall_not_mem.mpr fun x hx => hI x ((h.ids x).mp hx),
   List.eq_nil_iff_forall_not_mem.mpr fun x hx => hI x (hR x ((h.roots x).mp hx)),
   fun s t d he => hI s ((h.edges s t d).mp he).2.1⟩

end Protobom
