/- SPDX round trip, attribute level: what evaluation says of the regenerated attribute tables; a hash map, a
   reference list and an identifier map of any size read back; the conventions of the translators are
   idempotent, field by field; the node that comes back (`rtPkg_eq`, `rtFile_eq`: all 24 attributes, by position
   in the schema). -/
import Protobom.Proofs.Attrs
import Protobom.Proofs.Flat

namespace Protobom.Spdx
open Protobom Gen

theorem lookupD_mem {κ β} [BEq κ] [LawfulBEq κ] (tbl : List (κ × β)) (d : β) (k : κ) :
    lookupD tbl d k ∈ d :: tbl.map (·.2) := by
  unfold lookupD
  cases h : tbl.lookup k with
  | none => simp
  | some v => exact List.mem_cons_of_mem _ (List.mem_map.mpr ⟨_, mem_of_lookup h, rfl⟩)

/-! ### the tables (regenerated from the Go source: facts about them are checked by evaluation) -/

/-- the checksum algorithms SPDX can name -/
def spdxHashes : List Int := (Schema.hashAlgorithms.map (·.2)).filter (fun a => hashToSPDX a ≠ "")

theorem hash_algos_roundtrip : ∀ a ∈ spdxHashes, hashFromSPDX (hashToSPDX a) = a ∧ a ≠ 0 ∧ knownHash a = true := by
  decide +kernel

/-- purl / CPE 2.2 / CPE 2.3 / gitoid identifiers come back under the same key -/
theorem identifier_types_roundtrip :
    ∀ k ∈ [1, 2, 3, 4], (extRefKey (identCategory k) (identType k)) = ["i:-1", "true", "nil"] ∧ identIn (identType k) = k := by
  decide +kernel

/-- the eight external-reference types SPDX can express -/
def spdxRefTypes : List Int := [4, 26, 29, 30, 31, 44, 46, 47]

/-- what the parser reads from the category and type the serializer writes for reference type `t`:
    the type of a reference (`none` for an identifier or an unknown pair) -/
def refTypeBack (t : Int) : Option Int :=
  match extRefKey (refCategory t) (refType t) with
  | [c, "false", "nil"] => some (colInt c)
  | _ => none

theorem extref_types_roundtrip : ∀ t ∈ spdxRefTypes, refTypeBack t = some t := by decide +kernel

/-- the twelve native SPDX purposes -/
def spdxPurposes : List Int := [1, 2, 5, 7, 12, 13, 14, 15, 16, 21, 22, 26]

theorem purposes_roundtrip : ∀ p ∈ spdxPurposes, purposeIn (purposeOut [p]) = [p] := by decide +kernel

theorem mapStore_fresh {m : List (Int × String)} {k : Int} (v : String) (h : ∀ a ∈ m, a.1 ≠ k) :
    mapStore m k v = m ++ [(k, v)] := by
  simp [mapStore, any_key_false h]

theorem mem_spdxHashes {a : Int} : a ∈ spdxHashes ↔ knownHash a = true ∧ hashToSPDX a ≠ "" := by
  simp only [spdxHashes, knownHash, List.mem_filter, List.mem_map, List.any_eq_true, decide_eq_true_eq]

theorem hashes_readback (n : Node) (hnd : (n.hashes.map (·.1)).Nodup) :
    hashesOfChecksums (checksumsOf n) = (sortedByKey n.hashes).filter (fun kv => kv.1 ∈ spdxHashes) := by
  unfold hashesOfChecksums checksumsOf
  have hL := sortedByKey_keys_nodup _ hnd
  generalize sortedByKey n.hashes = L at hL ⊢
  -- entries outside the shared algorithms are not written; the others are stored back one by one
  rw [filterMap_filter_of_none (fun kv => kv.1 ∈ spdxHashes) _ L ?skip,
    foldl_filterMap_fresh _ _ _ [] ?back (keyUnique_filter _ hL) (by simp), List.nil_append]
  case skip =>
    intro kv _ h
    have h : kv.1 ∉ spdxHashes := by simpa using h
    by_cases h1 : knownHash kv.1 = true
    · have : hashToSPDX kv.1 = "" := Decidable.byContradiction fun h2 => h (mem_spdxHashes.mpr ⟨h1, h2⟩)
      simp [h1, this]
    · simp [h1]
  case back =>
    intro kv hkv
    have hk : kv.1 ∈ spdxHashes := by simpa using (List.mem_filter.mp hkv).2
    have h1 := hash_algos_roundtrip kv.1 hk
    exact ⟨{ algo := hashToSPDX kv.1, value := kv.2 }, by simp [h1.2.2, (mem_spdxHashes.mp hk).2],
      fun m hm => by simp [h1.1, h1.2.1, mapStore_fresh _ hm]⟩

theorem hashes_roundtrip (n : Node) (hk : ∀ kv ∈ n.hashes, kv.1 ∈ spdxHashes) (hnd : (n.hashes.map (·.1)).Nodup) :
    hashesOfChecksums (checksumsOf n) = sortedByKey n.hashes := by
  rw [hashes_readback n hnd]
  exact List.filter_eq_self.mpr fun kv hkv => decide_eq_true (sortedByKey_in _ _ hk kv hkv)

theorem checksumsOf_sorted {m n : Node} (h : m.hashes = sortedByKey n.hashes) (hnd : (n.hashes.map (·.1)).Nodup) :
    checksumsOf m = checksumsOf n := by
  unfold checksumsOf
  rw [h, sortedByKey_idem _ hnd]

def refOut (e : Protobom.ExtRef) : ExtRef :=
  { category := refCategory e.typ, refType := refType e.typ, locator := e.url, comment := e.comment }

def idOut (kv : Int × String) : ExtRef :=
  { category := identCategory kv.1, refType := identType kv.1, locator := kv.2 }

def refsInStep (st : List Protobom.ExtRef × List (Int × String)) (r : ExtRef) : List Protobom.ExtRef × List (Int × String) :=
  match extRefKey r.category r.refType with
  | [t, isId, err] =>
    if err = "err" then st
    else if isId = "true" then
      let it := identIn r.refType
      if it = 0 then st else (st.1, mapStore st.2 it r.locator)
    else (st.1 ++ [{ url := r.locator, typ := colInt t, comment := r.comment }], st.2)
  | _ => st

theorem refsIn_eq_fold (rs : List ExtRef) : refsIn rs = rs.foldl refsInStep ([], []) := rfl

theorem refsInStep_ref (st : List Protobom.ExtRef × List (Int × String)) (e : Protobom.ExtRef) (ht : e.typ ∈ spdxRefTypes) :
    refsInStep st (refOut e) = (st.1 ++ [{ url := e.url, typ := e.typ, comment := e.comment }], st.2) := by
  have h := extref_types_roundtrip e.typ ht
  unfold refTypeBack at h
  -- `unfold`, not `simp only [refsInStep]`: on its way into the branches `simp` compares the open `isId` with
  -- "true" byte by byte
  unfold refsInStep refOut
  split at h
  · rename_i cc heq
    simp only [Option.some.injEq] at h
    simp only [heq, h, String.reduceEq, ↓reduceIte]
  · cases h

theorem refsInStep_id (st : List Protobom.ExtRef × List (Int × String)) (kv : Int × String) (hk : kv.1 ∈ [1, 2, 3, 4]) :
    refsInStep st (idOut kv) = (st.1, mapStore st.2 kv.1 kv.2) := by
  have h := identifier_types_roundtrip kv.1 hk
  have hk0 : kv.1 ≠ 0 := by
    simp only [List.mem_cons, List.not_mem_nil, or_false] at hk
    omega
  simp [refsInStep, idOut, h.1, h.2, hk0]

theorem fold_refs (refs : List Protobom.ExtRef) (st : List Protobom.ExtRef × List (Int × String))
    (h : ∀ e ∈ refs, e.typ ∈ spdxRefTypes) :
    (refs.map refOut).foldl refsInStep st =
      (st.1 ++ refs.map (fun e => { url := e.url, typ := e.typ, comment := e.comment }), st.2) := by
  induction refs generalizing st with
  | nil => simp
  | cons e es ih =>
    simp only [List.map_cons, List.foldl_cons]
    rw [refsInStep_ref st e (h e List.mem_cons_self), ih _ (fun e' he' => h e' (List.mem_cons_of_mem _ he'))]
    simp

theorem fold_ids (L : List (Int × String)) (st : List Protobom.ExtRef × List (Int × String))
    (hk : ∀ kv ∈ L, kv.1 ∈ [1, 2, 3, 4]) (hnd : (L.map (·.1)).Nodup) (hdis : ∀ kv ∈ L, ∀ a ∈ st.2, a.1 ≠ kv.1) :
    (L.map idOut).foldl refsInStep st = (st.1, st.2 ++ L) := by
  -- the reference list is not touched, the identifier map is stored into entry by entry
  rw [← foldl_filterMap_fresh some (fun m kv => mapStore m kv.1 kv.2) L st.2
    (fun kv _ => ⟨kv, rfl, fun _ hm => mapStore_fresh _ hm⟩) hnd hdis, List.filterMap_some]
  clear hnd hdis
  induction L generalizing st with
  | nil => rfl
  | cons kv rest ih =>
    rw [List.map_cons, List.foldl_cons, refsInStep_id st kv (hk kv List.mem_cons_self),
      ih _ (fun kv' h' => hk kv' (List.mem_cons_of_mem _ h'))]
    rfl

theorem refs_ids_roundtrip (refs : List Protobom.ExtRef) (ids : List (Int × String))
    (hr : ∀ e ∈ refs, e.typ ∈ spdxRefTypes) (hk : ∀ kv ∈ ids, kv.1 ∈ [1, 2, 3, 4]) (hnd : (ids.map (·.1)).Nodup) :
    refsIn (refs.map refOut ++ (sortedByKey ids).map idOut) =
      (refs.map (fun e => { url := e.url, typ := e.typ, comment := e.comment }), sortedByKey ids) := by
  rw [refsIn_eq_fold, List.foldl_append, fold_refs refs _ hr,
    fold_ids (sortedByKey ids) _ (sortedByKey_in _ _ hk) (sortedByKey_keys_nodup _ hnd) (by intro _ _ a ha; cases ha)]
  simp

theorem refsIn_packageOf (n : Node)
    (hr : ∀ e ∈ Node.refs n "ExternalReferences", e.typ ∈ spdxRefTypes ∧ e.url ≠ "")
    (hk : ∀ kv ∈ n.identifiers, kv.1 ∈ [1, 2, 3, 4]) (hnd : (n.identifiers.map (·.1)).Nodup) :
    (refsIn (packageOf n).extRefs).1 =
      (Node.refs n "ExternalReferences").map (fun e => { url := e.url, typ := e.typ, comment := e.comment }) ∧
    (refsIn (packageOf n).extRefs).2 = sortedByKey n.identifiers := by
  have hx : (packageOf n).extRefs = (Node.refs n "ExternalReferences").map refOut ++ (sortedByKey n.identifiers).map idOut := by
    show List.map _ (List.filter _ _) ++ _ = _
    rw [List.filter_eq_self.mpr fun e he => by simpa using (hr e he).2]
    rfl
  simp only [hx, refs_ids_roundtrip _ _ (fun e he => (hr e he).1) hk hnd, and_self]

end Protobom.Spdx

namespace Protobom.Str

theorem trimSpace_idem (s : String) : trimSpace (trimSpace s) = trimSpace s := by
  unfold trimSpace
  rw [mk_toList]
  exact congrArg _ (trimL_idem goIsSpace s.toList)

end Protobom.Str

namespace Protobom.Spdx
open Protobom Gen

theorem purposeIn_fix (s : String) : purposeIn (purposeOut (purposeIn s)) = purposeIn s := by
  -- whatever the table reads, other than the marker -999 for "no purpose", is one of the twelve native purposes
  have hv : ∀ sv ∈ Tables.spdxPurposeIn, sv.2 ≠ -999 → sv.2 ∈ spdxPurposes := by decide
  have h0 : purposeIn (purposeOut []) = [] := by decide +kernel
  have hs : purposeIn s = [] ∨ ∃ v ∈ spdxPurposes, purposeIn s = [v] := by
    unfold purposeIn
    cases h : Tables.spdxPurposeIn.lookup s with
    | none => exact .inl rfl
    | some v =>
      by_cases h9 : v = -999
      · simp [h9]
      · exact .inr ⟨v, hv _ (mem_of_lookup h) h9, by simp [h9]⟩
  rcases hs with h | ⟨v, hm, h⟩
  · rw [h, h0]
  · rw [h, purposes_roundtrip v hm]

/-- replacing one sentinel string by another (empty download location by NOASSERTION, NOASSERTION
    licence by the empty string) is idempotent -/
theorem sentinel_fix {c d : String} (hcd : d ≠ c) (x : String) :
    (if (if x = c then d else x) = c then d else if x = c then d else x) = if x = c then d else x := by
  by_cases h : x = c <;> simp [h, hcd]

def agentOf (p : Person) : Agent := { name := clientString p, typ := clientOrg p }

theorem agentOf_agentPerson (s : Agent) :
    (agentOf (agentPerson s)).name = s.name ∧ agentPerson (agentOf (agentPerson s)) = agentPerson s := by
  by_cases h : s.typ = "Organization" <;> simp [agentOf, agentPerson, clientString, clientOrg, h]

theorem supplier_fix (a : Option Agent) :
    supplierPersons ((supplierPersons a).head?.map agentOf) = supplierPersons a := by
  cases a with
  | none => rfl
  | some s => by_cases h : s.name = "NOASSERTION" <;> simp [supplierPersons, h, agentOf_agentPerson]

theorem originator_fix (a : Option Agent) :
    originatorPersons ((originatorPersons a).head?.map agentOf) = originatorPersons a := by
  cases a with
  | none => rfl
  | some s => by_cases h : s.name = "NOASSERTION" ∨ s.name = "" <;> simp [originatorPersons, h, agentOf_agentPerson]

theorem fileCopyright_idem (x : String) : fileCopyright (fileCopyright x) = fileCopyright x := by
  unfold fileCopyright
  simp only
  by_cases h : Str.trimSpace x = ""
  · have : Str.trimSpace "NONE" = "NONE" := by decide
    simp [h, this]
  · simp [h, Str.trimSpace_idem]

/-- a package node written and read back; `codecPackage` (tools-golang write-then-read) is left out between the two -/
def rtPkg (n : Node) : Node := packageToNode (packageOf n)

def rtFile (n : Node) : Node := fileToNode (fileOf n)

/-- what `second_pass_package_node` (Props/C01.lean) asks of a package node: collections that SPDX holds in full -/
structure SpdxPkgNode (n : Node) : Prop where
  hk : ∀ kv ∈ n.hashes, kv.1 ∈ spdxHashes
  hnd : (n.hashes.map (·.1)).Nodup
  refs : ∀ e ∈ Node.refs n "ExternalReferences", e.typ ∈ spdxRefTypes ∧ e.url ≠ "" ∧ e.authority = "" ∧ e.hashes = []
  ik : ∀ kv ∈ n.identifiers, kv.1 ∈ [1, 2, 3, 4]
  ind : (n.identifiers.map (·.1)).Nodup

/-- what a package node holds after it was written and read back: its attributes in schema order
    (licences and file types are not written for a package) -/
def rtPkgVals (n : Node) : List Val :=
  [ .str (Node.str n "Name"), .str (Node.str n "Version"), .str (Node.str n "FileName"), .str (Node.str n "UrlHome"),
    .str (if Node.str n "UrlDownload" = "" then "NOASSERTION" else Node.str n "UrlDownload"), .strs [],
    .str (if Node.str n "LicenseConcluded" = "NOASSERTION" then "" else Node.str n "LicenseConcluded"),
    .str (Node.str n "LicenseComments"), .str (Str.trimSpace (Node.str n "Copyright")), .str (Node.str n "SourceInfo"),
    .str (Node.str n "Comment"), .str (Node.str n "Summary"), .str (Node.str n "Description"),
    .strs (Node.strs n "Attribution"),
    .persons (supplierPersons ((Node.persons n "Suppliers").head?.map agentOf)),
    .persons (originatorPersons ((Node.persons n "Originators").head?.map agentOf)),
    dateVal (Node.dateSecs n "ReleaseDate"), dateVal (Node.dateSecs n "BuildDate"), dateVal (Node.dateSecs n "ValidUntilDate"),
    .refs (refsIn (packageOf n).extRefs).1, .strs [], .imap (refsIn (packageOf n).extRefs).2,
    .imap (hashesOfChecksums (checksumsOf n)), .enums (purposeIn (purposeOut (Node.enums n "PrimaryPurpose"))) ]

/-- the same for a file node: a file keeps its name, licence texts, comment, file types and hashes -/
def rtFileVals (n : Node) : List Val :=
  [ .str (Node.str n "Name"), .str "", .str "", .str "", .str "", .strs [], .str (Node.str n "LicenseConcluded"),
    .str (Node.str n "LicenseComments"), .str (fileCopyright (Node.str n "Copyright")), .str "", .str (Node.str n "Comment"),
    .str "", .str "", .strs [], .persons [], .persons [], .date none, .date none, .date none, .refs [],
    .strs (Node.strs n "FileTypes"), .imap [], .imap (hashesOfChecksums (checksumsOf n)), .enums [] ]

/-- The one place where the chains `pkgAttr` and `fileAttr` are evaluated at the field names of the schema.
    Separate `simp only` calls: with the schema unfolded in the same call as `List.map`, `simp` does not come
    back; `↓reduceIte` decides a condition before the branches are visited (`if_false` only after). Later proofs read the list by position and never unfold `pkgAttr` or `packageOf` (`whnf` would run
    `String.decEq` down the chain on open terms). -/
theorem rtPkg_eq (n : Node) : rtPkg n = { id := n.id, typ := 0, attrs := rtPkgVals n } := by
  simp only [rtPkg, packageToNode, Schema.nodeAttrs, packageOf]
  simp only [List.map, pkgAttr, String.reduceEq, ↓reduceIte, Kind.zero]
  rfl

theorem rtFile_eq (n : Node) : rtFile n = { id := n.id, typ := 1, attrs := rtFileVals n } := by
  simp only [rtFile, fileToNode, Schema.nodeAttrs, fileOf]
  simp only [List.map, fileAttr, String.reduceEq, ↓reduceIte, Kind.zero]
  rfl

theorem rtPkg_attr_at (n : Node) (i : Nat) {f : String} {k : Kind} (h : Schema.nodeAttrs[i]? = some (f, k)) :
    (rtPkg n).attr f = (rtPkgVals n)[i]? := by
  rw [Node.attr_at _ i h, rtPkg_eq]

theorem rtFile_attr_at (n : Node) (i : Nat) {f : String} {k : Kind} (h : Schema.nodeAttrs[i]? = some (f, k)) :
    (rtFile n).attr f = (rtFileVals n)[i]? := by
  rw [Node.attr_at _ i h, rtFile_eq]

theorem rtPkg_hashes (n : Node) (hk : ∀ kv ∈ n.hashes, kv.1 ∈ spdxHashes) (hnd : (n.hashes.map (·.1)).Nodup) :
    (rtPkg n).hashes = sortedByKey n.hashes :=
  (Node.mapAttr_of_attr (rtPkg_attr_at n 22 rfl)).trans (hashes_roundtrip n hk hnd)

end Protobom.Spdx
