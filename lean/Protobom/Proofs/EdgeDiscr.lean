/- Edge equality discriminates: for identifiers free of the two separator characters the flattened
   string of an edge determines its source, its type and the multiset of its targets. (For node
   flattening the corresponding statement is false — the recorded separator finding.) -/
import Protobom.Proofs.Flat

namespace Protobom
open Gen

theorem split_at_unique {α} [DecidableEq α] {c : α} (a1 a2 b1 b2 : List α) (h1 : c ∉ a1) (h2 : c ∉ a2)
    (h : a1 ++ c :: b1 = a2 ++ c :: b2) : a1 = a2 ∧ b1 = b2 := by
  have e := congrArg (fun l => l.splitOn c) h
  simp only [List.splitOn_append_cons_self_of_not_mem h1, List.splitOn_append_cons_self_of_not_mem h2] at e
  obtain rfl := (List.cons.inj e).1
  exact ⟨rfl, (List.cons.inj (List.append_cancel_left h)).2⟩

theorem intercalate_inj {α} [DecidableEq α] (c : α) {L1 L2 : List (List α)}
    (h1 : ∀ x ∈ L1, c ∉ x ∧ x ≠ []) (h2 : ∀ x ∈ L2, c ∉ x ∧ x ≠ [])
    (h : [c].intercalate L1 = [c].intercalate L2) : L1 = L2 := by
  -- splitting gives the pieces back; dropping empty pieces covers `L = []`, which is joined to `[]` as `[[]]` is
  have key : ∀ L : List (List α), (∀ x ∈ L, c ∉ x ∧ x ≠ []) →
      L = (([c].intercalate L).splitOn c).filter (· ≠ []) := by
    intro L hL
    cases L with
    | nil => simp
    | cons x xs =>
      rw [List.splitOn_intercalate c (fun l hl => (hL l hl).1) (List.cons_ne_nil _ _)]
      exact (List.filter_eq_self.mpr fun l hl => by simpa using (hL l hl).2).symm
  rw [key L1 h1, h, ← key L2 h2]

-- two sweeps over the regenerated table; `+kernel` because the elaborator's own evaluation of `String.toList` on
-- every name is much slower than the kernel's and proves nothing more
theorem edgeTypeNames_clean : ∀ p ∈ Schema.edgeTypes, ':' ∉ p.1.toList := by decide +kernel

theorem edgeTypeNames_nodup : (Schema.edgeTypes.map (·.1)).Nodup := by decide +kernel

theorem edgeTypeName_known (t : Int) (h : t ∈ Schema.edgeTypes.map (·.2)) :
    ∃ p ∈ Schema.edgeTypes, p.2 = t ∧ edgeTypeName t = p.1 := by
  unfold edgeTypeName
  cases hf : Schema.edgeTypes.find? (·.2 = t) with
  | some p =>
    have hp := List.find?_some hf
    exact ⟨p, List.mem_of_find?_eq_some hf, by simpa using hp, rfl⟩
  | none =>
    obtain ⟨p, hp, e⟩ := List.mem_map.mp h
    have := List.find?_eq_none.mp hf p hp
    simp [e] at this

theorem edge_flat_discriminates (e f : Edge)
    (hs : ':' ∉ e.src.toList) (hs' : ':' ∉ f.src.toList)
    (ht : e.ty ∈ Schema.edgeTypes.map (·.2)) (ht' : f.ty ∈ Schema.edgeTypes.map (·.2))
    (hto : ∀ t ∈ e.tos, t ≠ "" ∧ '+' ∉ t.toList) (hto' : ∀ t ∈ f.tos, t ≠ "" ∧ '+' ∉ t.toList)
    (h : e.flat = f.flat) : e.src = f.src ∧ e.ty = f.ty ∧ e.tos.Perm f.tos := by
  obtain ⟨p, hp, hp2, hpn⟩ := edgeTypeName_known e.ty ht
  obtain ⟨q, hq, hq2, hqn⟩ := edgeTypeName_known f.ty ht'
  have hl := congrArg String.toList h
  simp only [Edge.flat, String.toList_append, String.toList_intercalate, hpn, hqn] at hl
  have hc : ":".toList = [':'] := rfl
  have hplus : "+".toList = ['+'] := rfl
  rw [hc, hplus] at hl
  simp only [List.append_assoc, List.singleton_append] at hl
  obtain ⟨e1, r1⟩ := split_at_unique _ _ _ _ hs hs' hl
  obtain ⟨e2, r2⟩ := split_at_unique _ _ _ _ (edgeTypeNames_clean p hp) (edgeTypeNames_clean q hq) r1
  have hname : p.1 = q.1 := String.toList_injective e2
  have hty : e.ty = f.ty := by rw [← hp2, ← hq2, nodup_map_inj _ _ edgeTypeNames_nodup hp hq hname]
  have hmem : ∀ (g : Edge), (∀ t ∈ g.tos, t ≠ "" ∧ '+' ∉ t.toList) →
      ∀ x ∈ (sortStrings g.tos).map String.toList, '+' ∉ x ∧ x ≠ [] := by
    intro g hg x hx
    obtain ⟨t, htm, rfl⟩ := List.mem_map.mp hx
    have := hg t ((sortStrings_perm_self g.tos).mem_iff.mp htm)
    exact ⟨this.2, fun hnil => this.1 (String.toList_eq_nil_iff.mp hnil)⟩
  have hlists := intercalate_inj '+' (hmem e hto) (hmem f hto') r2
  have hsorted : sortStrings e.tos = sortStrings f.tos :=
    (List.map_inj_right (fun _ _ => String.toList_injective)).mp hlists
  refine ⟨String.toList_injective e1, hty, ?_⟩
  exact (sortStrings_perm_self e.tos).symm.trans (hsorted ▸ sortStrings_perm_self f.tos)

end Protobom
