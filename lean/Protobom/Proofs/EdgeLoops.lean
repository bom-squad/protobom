/- The small list combinators of the model (`modifyFirst`, `modifyLast`, `addNew`), and the step and
   the fold of the edge loops (`mergeEdge`, `hasEdgeL_foldl`). -/
import Protobom.Proofs.CleanEdges

namespace Protobom

theorem map_modifyFirst {α β} (p : α → Bool) (f : α → α) (g : α → β) (h : ∀ x, g (f x) = g x) (l : List α) :
    (modifyFirst p f l).map g = l.map g := by
  induction l with
  | nil => rfl
  | cons x xs ih =>
    simp only [modifyFirst]
    split <;> simp [h, ih]

theorem map_modifyLast {α β} (p : α → Bool) (f : α → α) (g : α → β) (h : ∀ x, g (f x) = g x) (l : List α) :
    (modifyLast p f l).map g = l.map g := by
  unfold modifyLast
  rw [List.map_reverse, map_modifyFirst p f g h, List.map_reverse, List.reverse_reverse]

theorem length_modifyFirst {α} (p : α → Bool) (f : α → α) (l : List α) :
    (modifyFirst p f l).length = l.length := by
  simpa using congrArg List.length (map_modifyFirst p f (fun _ => ()) (fun _ => rfl) l)

theorem mem_modifyFirst {α} (p : α → Bool) (f : α → α) (l : List α) (y : α) :
    y ∈ modifyFirst p f l → y ∈ l ∨ ∃ x ∈ l, p x = true ∧ y = f x := by
  induction l with
  | nil => simp [modifyFirst]
  | cons x xs ih =>
    rw [modifyFirst]
    split <;> rename_i hp <;> simp only [List.mem_cons, exists_eq_or_imp]
    · exact fun hy => hy.elim (fun e => .inr (.inl ⟨hp, e⟩)) (.inl ∘ .inr)
    · exact fun hy => hy.elim (.inl ∘ .inl) fun h => (ih h).elim (.inl ∘ .inr) (.inr ∘ .inr)

theorem mem_modifyLast {α} (p : α → Bool) (f : α → α) (l : List α) (y : α) :
    y ∈ modifyLast p f l → y ∈ l ∨ ∃ x ∈ l, p x = true ∧ y = f x := fun h => by
  simpa only [List.mem_reverse] using mem_modifyFirst p f l.reverse y (List.mem_reverse.mp h)

theorem mem_addNew (ts xs : List String) (d : String) : d ∈ addNew ts xs ↔ d ∈ ts ∨ d ∈ xs := by
  unfold addNew
  induction xs generalizing ts with
  | nil => simp
  | cons x xs ih =>
    rw [List.foldl_cons, ih, List.mem_cons]
    split
    · rename_i hx
      exact ⟨fun h => h.imp_right .inr, fun h => h.elim .inl fun h => h.elim (fun h => .inl (h ▸ hx)) .inr⟩
    · rw [List.mem_append, List.mem_singleton, or_assoc]

theorem addNew_nodup : ∀ (xs ts : List String), ts.Nodup → (addNew ts xs).Nodup
  | [], _, h => h
  | x :: xs, ts, h => by
    rw [addNew, List.foldl_cons]
    split
    · exact addNew_nodup xs ts h
    · rename_i hx
      exact addNew_nodup xs _ (List.nodup_append.mpr ⟨h, by simp, fun a ha b hb =>
        List.mem_singleton.mp hb ▸ fun e => hx (e ▸ ha)⟩)

theorem keys_modifyFirst (p : Edge → Bool) (g : Edge → List String) (acc : List Edge) :
    (modifyFirst p (fun e => { e with tos := g e }) acc).map Edge.key = acc.map Edge.key :=
  map_modifyFirst p (fun e => { e with tos := g e }) Edge.key (fun _ => rfl) acc

theorem hasEdgeL_modifyFirst (k : Key) (g : List String → List String) (extra : List String)
    (hg : ∀ ts d, d ∈ g ts ↔ d ∈ ts ∨ d ∈ extra) (acc : List Edge) (s t d) :
    HasEdgeL (modifyFirst (·.key = k) (fun e => { e with tos := g e.tos }) acc) s t d ↔
      HasEdgeL acc s t d ∨ ((∃ e ∈ acc, e.key = k) ∧ (s, t) = k ∧ d ∈ extra) := by
  induction acc with
  | nil => simp [modifyFirst, HasEdgeL]
  | cons x xs ih =>
    rw [modifyFirst]
    split <;> rename_i hx <;> simp only [decide_eq_true_eq] at hx
    · have hk : Edge.key { x with tos := g x.tos } = k := hx
      simp only [hasEdgeL_cons, hk, hx, hg, List.mem_cons, exists_eq_or_imp, true_or, true_and,
        and_or_left, or_right_comm]
    · simp only [hasEdgeL_cons, ih, List.mem_cons, exists_eq_or_imp, hx, false_or, or_assoc]

/-- the step of the edge loops of `Union`, `Intersect` and the two `Relate…AtID` (each is this by `rfl`) -/
def mergeEdge (g : List String → List String) (c : Prop) [Decidable c] (acc : List Edge) (e2 : Edge) :
    List Edge :=
  if c then modifyFirst (·.key = e2.key) (fun e => { e with tos := g e.tos }) acc else acc ++ [e2]

theorem hasEdgeL_merge (g : List String → List String) (e2 : Edge)
    (hg : ∀ ts d, d ∈ g ts ↔ d ∈ ts ∨ d ∈ e2.tos) (c : Prop) [Decidable c] (acc : List Edge)
    (hc : c → ∃ e ∈ acc, e.key = e2.key) (s t d) :
    HasEdgeL (mergeEdge g c acc e2) s t d ↔ HasEdgeL acc s t d ∨ HasEdgeL [e2] s t d := by
  unfold mergeEdge
  split
  · rename_i h
    rw [hasEdgeL_modifyFirst e2.key g e2.tos hg, and_iff_right (hc h), hasEdgeL_single]
  · exact hasEdgeL_append acc [e2] s t d

theorem keys_sub_merge (g : List String → List String) (e2 : Edge) (c : Prop) [Decidable c]
    (acc : List Edge) (k : Key) (h : k ∈ acc.map Edge.key) :
    k ∈ (mergeEdge g c acc e2).map Edge.key := by
  unfold mergeEdge
  split
  · rwa [keys_modifyFirst]
  · rw [List.map_append]; exact List.mem_append_left _ h

/-- `view` extracts the edge list from the loop state (`Add` keeps a pair); `Inv` is whatever the
    step needs to find its edge (a stale key index that must stay valid) -/
theorem hasEdgeL_foldl {σ} (view : σ → List Edge) (step : σ → Edge → σ) (Inv : σ → Prop)
    (hstep : ∀ st e, Inv st → Inv (step st e) ∧ ∀ s t d,
      HasEdgeL (view (step st e)) s t d ↔ HasEdgeL (view st) s t d ∨ HasEdgeL [e] s t d)
    (es : List Edge) (st : σ) (h : Inv st) (s t d) :
    HasEdgeL (view (es.foldl step st)) s t d ↔ HasEdgeL (view st) s t d ∨ HasEdgeL es s t d := by
  induction es generalizing st with
  | nil => simp [hasEdgeL_nil]
  | cons e es ih =>
    rw [List.foldl_cons, ih _ (hstep st e h).1, (hstep st e h).2, or_assoc, ← hasEdgeL_append]; rfl

end Protobom
