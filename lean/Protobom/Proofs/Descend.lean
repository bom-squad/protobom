/- `NodeDescendants`: level-bounded reachability. -/
import Protobom.Proofs.Reach

namespace Protobom

/-- `ReachIn nl s k z`: `z` is reached from `s` by `k` hops; a hop leaves `x` only if `x` is the
    start node or not a root element (another root is reached but never traversed through) -/
inductive ReachIn (nl : NodeList) (s : String) : Nat → String → Prop
  | zero : ReachIn nl s 0 s
  | succ {k x z} : ReachIn nl s k x → (x = s ∨ x ∉ nl.roots) → z ∈ nl.targets x → ReachIn nl s (k + 1) z

def Within (nl : NodeList) (s : String) (j : Nat) (z : String) : Prop := ∃ k, k ≤ j ∧ ReachIn nl s k z

theorem Within.mono {nl : NodeList} {s : String} {j j' : Nat} {z : String} (h : Within nl s j z)
    (hj : j ≤ j') : Within nl s j' z := let ⟨k, hk, hr⟩ := h; ⟨k, Nat.le_trans hk hj, hr⟩

theorem reachIn_zero {nl : NodeList} {s z : String} (h : ReachIn nl s 0 z) : z = s := by
  cases h; rfl

theorem reachIn_succ {nl : NodeList} {s z : String} {k : Nat} (h : ReachIn nl s (k + 1) z) :
    ∃ x, ReachIn nl s k x ∧ (x = s ∨ x ∉ nl.roots) ∧ z ∈ nl.targets x := by
  cases h with
  | succ hr he ht => exact ⟨_, hr, he, ht⟩

theorem reachIn_mem_ids {nl : NodeList} {s z : String} {k : Nat} (hs : s ∈ nl.ids) (h : ReachIn nl s k z) :
    z ∈ nl.ids := by
  cases h with
  | zero => exact hs
  | succ _ _ ht => exact ((mem_targets nl _ z).mp ht).2

theorem reachIn_congr {a b : NodeList} (h : a ≃ₙ b) {s : String} {k : Nat} {z : String} :
    ReachIn a s k z ↔ ReachIn b s k z := by
  suffices ∀ {a b}, a ≃ₙ b → ReachIn a s k z → ReachIn b s k z from ⟨this h, this h.symm⟩
  intro a b h hr
  induction hr with
  | zero => exact ReachIn.zero
  | succ _ hx hz ih =>
    exact ReachIn.succ ih (hx.imp id fun hnr hr => hnr ((h.roots _).mpr hr)) ((targets_congr h _ _).mp hz)

theorem descStep_mem (nl : NodeList) (s : String) (st : List String × List String) (n z : String) :
    (z ∈ (nl.descStep s st n).1 ↔ z = n ∨ z ∈ st.1) ∧
    (z ∈ (nl.descStep s st n).2 ↔ z ∈ st.2 ∨
      (n ∉ st.1 ∧ (n = s ∨ n ∉ nl.roots) ∧ z ∈ nl.targets n ∧ z ≠ n ∧ z ∉ st.1)) := by
  unfold NodeList.descStep NodeList.targets
  generalize (nl.edges.filter (·.src = n)).flatMap (·.tos) = ts
  split  -- case by case: one `grind` over all three is slower to check
  · grind
  · split <;> grind

/-- One level. The seen set is exact; the next frontier depends on the order of the frontier (a
    target joins unless it was seen when its source was expanded), so it is bounded from above
    (second clause) and from below (third and fourth). -/
theorem descFold_mem (nl : NodeList) (s : String) (frontier : List String) (st : List String × List String) :
    (∀ z, z ∈ (frontier.foldl (nl.descStep s) st).1 ↔ z ∈ st.1 ∨ z ∈ frontier) ∧
    (∀ z ∈ (frontier.foldl (nl.descStep s) st).2,
      z ∈ st.2 ∨ ∃ n ∈ frontier, (n = s ∨ n ∉ nl.roots) ∧ z ∈ nl.targets n) ∧
    (∀ n ∈ frontier, n ∉ st.1 → (n = s ∨ n ∉ nl.roots) → ∀ z ∈ nl.targets n,
      z ∈ (frontier.foldl (nl.descStep s) st).1 ∨ z ∈ (frontier.foldl (nl.descStep s) st).2) ∧
    (∀ z ∈ st.2, z ∈ (frontier.foldl (nl.descStep s) st).2) := by
  induction frontier generalizing st with
  | nil => simp
  | cons n ns ih =>
    obtain ⟨l1, l2, l3, l4⟩ := ih (nl.descStep s st n)
    clear ih
    have step := descStep_mem nl s st n
    simp only [List.foldl_cons]
    refine ⟨fun z => ?_, fun z hz => ?_, fun m hm hms he z hz => ?_, fun z hz => l4 z ((step z).2.mpr (.inl hz))⟩
    · rw [l1, (step z).1, List.mem_cons, or_comm (a := z = n), or_assoc]
    · rcases l2 z hz with h | ⟨m, hm, h⟩
      · rcases (step z).2.mp h with h | h
        · exact .inl h
        · exact .inr ⟨n, List.mem_cons_self, h.2.1, h.2.2.1⟩
      · exact .inr ⟨m, List.mem_cons_of_mem _ hm, h⟩
    · by_cases hmn : m = n
      · subst hmn
        by_cases hz' : z = m ∨ z ∈ st.1
        · exact .inl ((l1 z).mpr (.inl ((step z).1.mpr hz')))
        · exact .inr (l4 z ((step z).2.mpr (.inr ⟨hms, he, hz, fun h => hz' (.inl h), fun h => hz' (.inr h)⟩)))
      · exact l3 m ((List.mem_cons.mp hm).resolve_left hmn) (fun h => ((step m).1.mp h).elim hmn hms) he z hz

/-- the loop with its exact invariant at level `j`: seen = fewer than `j` hops, the frontier is
    reached by `j` hops, and all of level `j` is in one of the two -/
theorem descLoop_mem (nl : NodeList) (s : String) (d j : Nat) (frontier seen : List String)
    (i1 : ∀ z, z ∈ seen ↔ ∃ k, k < j ∧ ReachIn nl s k z)
    (i2 : ∀ z ∈ frontier, ReachIn nl s j z)
    (i3 : ∀ z, ReachIn nl s j z → z ∈ seen ∨ z ∈ frontier) (z : String) :
    z ∈ nl.descLoop s d frontier seen ↔ ∃ k, k < j + d ∧ ReachIn nl s k z := by
  induction d generalizing j frontier seen with
  | zero => simpa [NodeList.descLoop] using i1 z
  | succ d ih =>
    simp only [NodeList.descLoop]
    obtain ⟨l1, l2, l3, -⟩ := descFold_mem nl s frontier (seen, [])
    generalize frontier.foldl (nl.descStep s) (seen, []) = r at l1 l2 l3 ⊢
    -- the invariant at level `j + 1`, with `r.1` seen and `r.2` the frontier
    have i1' : ∀ z, z ∈ r.1 ↔ ∃ k, k < j + 1 ∧ ReachIn nl s k z := by
      intro z; rw [l1, i1]  -- `k < j`: `i1`; `k = j`: `i2` and `i3`
      exact ⟨fun h => h.elim (fun ⟨k, hk, h⟩ => ⟨k, Nat.lt_succ_of_lt hk, h⟩) fun h => ⟨j, j.lt_succ_self, i2 z h⟩,
        fun ⟨k, hk, h⟩ => (Nat.lt_succ_iff_lt_or_eq.mp hk).elim (fun hk => .inl ⟨k, hk, h⟩)
          fun hk => (i3 z (hk ▸ h)).imp_left (i1 z).mp⟩
    have i2' : ∀ z ∈ r.2, ReachIn nl s (j + 1) z := fun z hz =>
      (l2 z hz).elim (by simp) fun ⟨n, hn, he, ht⟩ => .succ (i2 n hn) he ht
    have i3' : ∀ z, ReachIn nl s (j + 1) z → z ∈ r.1 ∨ z ∈ r.2 := by
      intro z hz
      obtain ⟨x, hx, he, ht⟩ := reachIn_succ hz
      by_cases hxs : x ∈ seen  -- else `x` is in the frontier (`i3`): third clause of `descFold_mem`
      · obtain ⟨k, hk, h⟩ := (i1 x).mp hxs
        exact .inl ((i1' z).mpr ⟨k + 1, by omega, .succ h he ht⟩)
      · exact l3 x ((i3 x hx).resolve_left hxs) hxs he z ht
    rw [ih (j + 1) r.2 r.1 i1' i2' i3', Nat.add_assoc, Nat.add_comm 1 d]

theorem nodeDescendants_sem (nl : NodeList) (id : String) (depth : Int) :
    Sem (nl.nodeDescendants id depth)
      (fun z => id ∈ nl.ids ∧ ∃ k, k < depth.toNat ∧ ReachIn nl id k z)
      (fun x => x = id ∧ id ∈ nl.ids ∧ 0 < depth.toNat) nl.HasEdge := by
  unfold NodeList.nodeDescendants
  split
  · rename_i hin
    have loop := descLoop_mem nl id depth.toNat 0 [id] [] (by simp) (by simpa using .zero)
      (fun z h => .inr (by simp [reachIn_zero h]))
    simp only [Nat.zero_add] at loop
    refine Sem.clean (fun z => (mem_nodesOf_ids nl _ z).trans ?_) (fun x => ?_) (fun _ _ _ => .rfl)
    · rw [loop]
      exact ⟨fun h => ⟨hin, h.1⟩, fun h => ⟨h.2, let ⟨_, _, hr⟩ := h.2; reachIn_mem_ids hin hr⟩⟩
    · -- the start node is level zero, so it is among the collected ones when the depth is positive
      have : id ∈ nl.descLoop id depth.toNat [id] [] ↔ 0 < depth.toNat :=
        (loop id).trans ⟨fun ⟨k, hk, _⟩ => Nat.zero_lt_of_lt hk, fun h => ⟨0, h, .zero⟩⟩
      split
      · exact List.mem_singleton.trans (and_iff_left ⟨hin, this.mp ‹_›⟩).symm
      · exact iff_of_false List.not_mem_nil fun hx => ‹¬ _› (this.mpr hx.2.2)
  · rename_i hin
    exact ⟨fun _ => iff_of_false List.not_mem_nil (hin ·.1), fun _ => iff_of_false List.not_mem_nil (hin ·.2.1),
      fun s t d => iff_of_false (hasEdgeL_nil s t d) (hin ·.2.1.1)⟩

theorem nodeDescendants_congr {a b : NodeList} (h : a ≃ₙ b) (id : String) (depth : Int) :
    a.nodeDescendants id depth ≃ₙ b.nodeDescendants id depth :=
  (nodeDescendants_sem a id depth).equiv (nodeDescendants_sem b id depth)
    (fun _ => and_congr (h.ids id) (exists_congr fun _ => and_congr_right' (reachIn_congr h)))
    (fun _ => and_congr_right' (and_congr_left' (h.ids id))) fun s t d _ _ => h.edges s t d

end Protobom
