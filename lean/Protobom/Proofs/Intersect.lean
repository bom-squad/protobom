/- Lookups by identifier; refinement lemmas for `Intersect` and `RemoveNodes`. -/
import Protobom.Proofs.Union
import Protobom.Proofs.Lists

namespace Protobom

theorem find?_id_some (l : List Node) (i : String) (h : i ∈ l.map (·.id)) :
    ∃ n, l.find? (fun n => decide (n.id = i)) = some n ∧ n.id = i ∧ n ∈ l := by
  obtain ⟨m, hm, hmi⟩ := List.mem_map.mp h
  cases hf : l.find? (fun n => decide (n.id = i)) with
  | none => exact absurd (decide_eq_true hmi) (List.find?_eq_none.mp hf m hm)
  | some n => exact ⟨n, rfl, by simpa using List.find?_some hf, List.mem_of_find?_eq_some hf⟩

theorem find?_id_of_nodup (l : List Node) (hnd : (l.map (·.id)).Nodup) (p : Node) (hp : p ∈ l) :
    l.find? (fun n => decide (n.id = p.id)) = some p := by
  obtain ⟨n, h1, h2, h3⟩ := find?_id_some l p.id (List.mem_map_of_mem hp)
  rw [h1, nodup_map_inj (·.id) l hnd h3 hp h2]

theorem getNodeByID_some (nl : NodeList) (i : String) (h : i ∈ nl.ids) :
    ∃ n, nl.getNodeByID i = some n ∧ n.id = i ∧ n ∈ nl.nodes :=
  find?_id_some nl.nodes i h

theorem getNodeByID_id (nl : NodeList) (i : String) (n : Node) (h : nl.getNodeByID i = some n) :
    n.id = i ∧ n ∈ nl.nodes :=
  ⟨by simpa using List.find?_some h, List.mem_of_find?_eq_some h⟩

theorem getNodeByID_none (nl : NodeList) (i : String) (h : i ∉ nl.ids) : nl.getNodeByID i = none :=
  List.find?_eq_none.mpr fun n hn hni => h (List.mem_map.mpr ⟨n, hn, of_decide_eq_true hni⟩)

theorem indexed_some (nl : NodeList) (i : String) (h : i ∈ nl.ids) :
    ∃ n, nl.indexed i = some n ∧ n.id = i ∧ n ∈ nl.nodes := by
  obtain ⟨n, h1, h2, h3⟩ := find?_id_some nl.nodes.reverse i (by rwa [List.map_reverse, List.mem_reverse])
  exact ⟨n, h1, h2, List.mem_reverse.mp h3⟩

theorem indexed_none (nl : NodeList) (k : String) (hk : k ∉ nl.ids) : nl.indexed k = none :=
  List.find?_eq_none.mpr fun n hn hnk =>
    hk (List.mem_map.mpr ⟨n, List.mem_reverse.mp hn, of_decide_eq_true hnk⟩)

theorem indexed_eq_of_nodup (nl : NodeList) (hnd : nl.ids.Nodup) (p : Node) (hp : p ∈ nl.nodes) :
    nl.indexed p.id = some p :=
  find?_id_of_nodup nl.nodes.reverse
    (by rw [List.map_reverse]; exact List.pairwise_reverse.mpr (hnd.imp Ne.symm)) p (List.mem_reverse.mpr hp)

def sharedIds (a b : NodeList) : List String := a.ids.eraseDups.filter (· ∈ b.ids)

theorem mem_sharedIds (a b : NodeList) (x : String) : x ∈ sharedIds a b ↔ x ∈ a.ids ∧ x ∈ b.ids := by
  simp [sharedIds]

theorem sharedIds_nodup (a b : NodeList) : (sharedIds a b).Nodup :=
  (nodup_eraseDups _).sublist List.filter_sublist

def intersectNode (a b : NodeList) (id : String) : Option Node :=
  match a.indexed id, b.indexed id with
  | some p, some q => some (p.update q)
  | _, _ => none

theorem intersect_nodes_eq (a b : NodeList) :
    (a.intersect b).nodes = (sharedIds a b).filterMap (intersectNode a b) := rfl

theorem intersectNode_ids (a b : NodeList) (l : List String) (h : ∀ x ∈ l, x ∈ a.ids ∧ x ∈ b.ids) :
    (l.filterMap (intersectNode a b)).map (·.id) = l := by
  induction l with
  | nil => rfl
  | cons x xs ih =>
    obtain ⟨ha, hb⟩ := h x List.mem_cons_self
    obtain ⟨p, hp, hpi, _⟩ := indexed_some a x ha
    obtain ⟨q, hq, _, _⟩ := indexed_some b x hb
    simp only [List.filterMap_cons, intersectNode, hp, hq, List.map_cons, update_id, hpi]
    rw [ih (fun y hy => h y (List.mem_cons_of_mem _ hy))]

theorem intersect_ids_eq (a b : NodeList) : (a.intersect b).ids = sharedIds a b := by
  simp only [NodeList.ids, intersect_nodes_eq]
  exact intersectNode_ids a b _ (fun x hx => (mem_sharedIds a b x).mp hx)

theorem intersect_ids_nodup (a b : NodeList) : (a.intersect b).ids.Nodup := by
  rw [intersect_ids_eq]; exact sharedIds_nodup a b

theorem intersect_roots_nodup (a b : NodeList) : (a.intersect b).roots.Nodup :=
  (sharedIds_nodup a b).sublist List.filter_sublist

theorem intersectEdges_rel (base es2 : List Edge) (s t d) :
    HasEdgeL (intersectEdges base es2) s t d ↔ HasEdgeL base s t d ∨ HasEdgeL es2 s t d :=
  hasEdgeL_foldl id intersectEdgeStep (fun _ => True) (fun acc e _ => ⟨trivial,
    hasEdgeL_merge (mergedIds · e.tos) e (mem_mergedIds · e.tos) _ acc (any_key_iff acc e.key).mp⟩)
    es2 base trivial s t d

theorem intersect_sem (a b : NodeList) : Sem (a.intersect b) (fun x => x ∈ a.ids ∧ x ∈ b.ids)
    (fun x => (x ∈ a.ids ∧ x ∈ b.ids) ∧ (x ∈ a.roots ∨ x ∈ b.roots))
    (fun s t d => a.HasEdge s t d ∨ b.HasEdge s t d) :=
  Sem.clean (nl := { nodes := (sharedIds a b).filterMap (intersectNode a b),
                     edges := intersectEdges a.edges b.edges,
                     roots := (sharedIds a b).filter (fun id => id ∈ a.roots ∨ id ∈ b.roots) })
    (fun x => (intersect_ids_eq a b ▸ mem_sharedIds a b x :))
    (fun x => by simp only [List.mem_filter, mem_sharedIds, decide_eq_true_eq])
    (intersectEdges_rel _ _)

theorem removeNodes_sem (nl : NodeList) (rm : List String) : Sem (nl.removeNodes rm)
    (fun x => x ∈ nl.ids ∧ x ∉ rm) (fun x => x ∈ nl.roots ∧ x ∉ rm) nl.HasEdge :=
  Sem.clean (nl := { nodes := nl.nodes.filter (·.id ∉ rm), edges := nl.edges,
                     roots := nl.roots.filter (· ∉ rm) })
    (fun x => by simp only [NodeList.ids, List.mem_map, List.mem_filter, decide_eq_true_eq]; grind)
    (fun x => by simp only [List.mem_filter, decide_eq_true_eq]) (fun _ _ _ => .rfl)

end Protobom
