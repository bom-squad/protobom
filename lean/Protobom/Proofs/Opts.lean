/- Refinement of the options heap to configuration values: instances never share cells. -/
import Protobom.Model.Opts
import Protobom.Proofs.Lists

namespace Protobom.Opts

theorem upd_ne (s : Nat → Cell) (p q : Nat) (c : Cell) (h : q ≠ p) : upd s p c q = s q := by
  simp [upd, h]

theorem upd_eq (s : Nat → Cell) (p : Nat) (c : Cell) : upd s p c p = c := by simp [upd]

theorem deref_congr (s s' : Nat → Cell) (o : Opt) (h : ∀ p ∈ o.ptrs, s' p = s p) : deref s' o = deref s o := by
  simp only [deref, Prod.mk.injEq, true_and]
  exact List.map_congr_left h

theorem deref_upd_other (s : Nat → Cell) (o : Opt) (p : Nat) (c : Cell) (h : p ∉ o.ptrs) :
    deref (upd s p c) o = deref s o :=
  deref_congr _ _ _ fun q hq => upd_ne s p q c fun e => h (e ▸ hq)

theorem deref_upd_self (s : Nat → Cell) (o : Opt) (k p : Nat) (c : Cell) (hnd : o.ptrs.Nodup)
    (hk : o.ptrs[k]? = some p) : deref (upd s p c) o = (o.format, (o.ptrs.map s).set k c) := by
  simp only [deref, Prod.mk.injEq, true_and]
  rw [map_eq_set hk, upd_eq]
  intro j x hj hne
  exact upd_ne s p x c fun e =>
    hne ((List.getElem?_inj (List.getElem?_eq_some_iff.mp hj).1 hnd).mp (hj.trans (e ▸ hk.symm)))

theorem map_deref_upd (s : Nat → Cell) {os : List Opt} (hnd : (os.flatMap (·.ptrs)).Nodup) {i k p : Nat} {o : Opt}
    (c : Cell) (hi : os[i]? = some o) (hk : o.ptrs[k]? = some p) :
    os.map (deref (upd s p c)) = (os.map (deref s)).set i (o.format, (o.ptrs.map s).set k c) := by
  obtain ⟨hobj, hdisj⟩ := List.pairwise_flatMap.mp hnd
  rw [map_eq_set hi, deref_upd_self s o k p c (hobj o (List.mem_of_getElem? hi)) hk]
  intro j oj hj hne
  refine deref_upd_other _ oj p _ fun hpj => ?_
  obtain ⟨hi', rfl⟩ := List.getElem?_eq_some_iff.mp hi
  obtain ⟨hj', rfl⟩ := List.getElem?_eq_some_iff.mp hj
  have hp := List.pairwise_iff_getElem.mp hdisj
  have hpi := List.mem_of_getElem? hk
  rcases Nat.lt_or_gt_of_ne hne with hlt | hlt
  · exact hp j i hj' hi' hlt p hpj p hpi rfl
  · exact hp i j hi' hj' hlt p hpi p hpj rfl

/-- `l` lists allocated cells, none of them twice. With `l` the pointers of all objects of a state this
    is the state invariant; with `l = F ++ o.ptrs` it says that the object `o` under construction owns
    its cells: it shares none with the foreign pointers `F` -/
def Alloc (next : Nat) (l : List Nat) : Prop := l.Nodup ∧ ∀ p ∈ l, p < next

theorem Alloc.fresh {next : Nat} {l : List Nat} (h : Alloc next l) : next ∉ l :=
  fun hm => Nat.lt_irrefl _ (h.2 next hm)

theorem Alloc.set {next : Nat} {l : List Nat} (h : Alloc next l) (k : Nat) : Alloc (next + 1) (l.set k next) := by
  refine ⟨?_, fun p hp => ?_⟩
  · rw [List.set_eq_take_append_cons_drop]
    split
    · rw [List.perm_middle.nodup_iff, ← List.eraseIdx_eq_take_drop_succ]
      exact List.nodup_cons.mpr ⟨fun hm => h.fresh ((List.eraseIdx_sublist l k).subset hm),
        h.1.sublist (List.eraseIdx_sublist l k)⟩
    · exact h.1
  · rcases List.mem_or_eq_of_mem_set hp with hp | rfl
    · exact Nat.lt_succ_of_lt (h.2 p hp)
    · exact Nat.lt_succ_self _

theorem applySetting_spec (F : List Nat) (s : Nat → Cell) (next : Nat) (o : Opt) (x : Setting)
    (ho : Alloc next (F ++ o.ptrs)) :
    let r := applySetting s next o x
    Alloc r.2.1 (F ++ r.2.2.ptrs) ∧ (∀ q ∈ F, r.1 q = s q) ∧ deref r.1 r.2.2 = specSetting (deref s o) x := by
  cases x with
  | format f => exact ⟨ho, fun _ _ => rfl, rfl⟩
  | replace k c =>
    simp only [applySetting, specSetting, deref, List.length_map]
    split
    · refine ⟨?_, fun q hq => upd_ne s next q c fun e => ho.fresh (e ▸ List.mem_append_left _ hq), ?_⟩
      · have := ho.set (F.length + k)
        rwa [List.set_append_right _ _ (Nat.le_add_right _ _), Nat.add_sub_cancel_left] at this
      · simp only [setNth, List.map_set, upd_eq, Prod.mk.injEq, true_and]
        congr 1
        exact List.map_congr_left fun q hq => upd_ne s next q c fun e => ho.fresh (e ▸ List.mem_append_right _ hq)
    · exact ⟨ho, fun _ _ => rfl, rfl⟩
  | setKey k key val =>
    simp only [applySetting, specSetting, deref, List.getElem?_map]
    cases hp : o.ptrs[k]? with
    | none => exact ⟨ho, fun _ _ => rfl, rfl⟩
    | some p =>
      obtain ⟨_, hnd, hdisj⟩ := List.nodup_append.mp ho.1
      exact ⟨ho, fun q hq => upd_ne s p q _ (hdisj q hq p (List.mem_of_getElem? hp)),
        deref_upd_self s o k p _ hnd hp⟩

theorem applySettings_spec (F : List Nat) : ∀ (xs : List Setting) (s : Nat → Cell) (next : Nat) (o : Opt),
    Alloc next (F ++ o.ptrs) →
    Alloc (applySettings s next o xs).2.1 (F ++ (applySettings s next o xs).2.2.ptrs) ∧
    (∀ q ∈ F, (applySettings s next o xs).1 q = s q) ∧
    deref (applySettings s next o xs).1 (applySettings s next o xs).2.2 = xs.foldl specSetting (deref s o)
  | [], s, next, o, ho => ⟨ho, fun _ _ => rfl, rfl⟩
  | x :: xs, s, next, o, ho => by
    obtain ⟨a1, a2, a3⟩ := applySetting_spec F s next o x ho
    obtain ⟨b1, b2, b3⟩ := applySettings_spec F xs _ _ _ a1
    simp only [applySettings, List.foldl_cons]
    refine ⟨b1, fun q hq => (b2 q hq).trans (a2 q hq), ?_⟩
    rw [b3, a3]

theorem clonePtrs_spec : ∀ (ps : List Nat) (s : Nat → Cell) (next : Nat), (∀ p ∈ ps, p < next) →
    (clonePtrs s next ps).2.1 = next + ps.length ∧
    (clonePtrs s next ps).2.2 = List.range' next ps.length ∧
    (∀ q, q < next → (clonePtrs s next ps).1 q = s q) ∧
    (clonePtrs s next ps).2.2.map (clonePtrs s next ps).1 = ps.map s
  | [], _, _, _ => ⟨rfl, rfl, fun _ _ => rfl, rfl⟩
  | p :: ps, s, next, h => by
    have hps : ∀ q ∈ ps, q < next + 1 := fun q hq => Nat.lt_succ_of_lt (h q (List.mem_cons_of_mem _ hq))
    obtain ⟨i1, i2, i3, i4⟩ := clonePtrs_spec ps (upd s next (s p)) (next + 1) hps
    simp only [clonePtrs]
    refine ⟨by rw [i1, List.length_cons]; omega, by rw [i2]; rfl, fun q hq => ?_, ?_⟩
    · rw [i3 q (by omega)]
      exact upd_ne s next q _ (by omega)
    · rw [List.map_cons, i4, i3 next (by omega), upd_eq]
      exact congrArg _ (List.map_congr_left fun q hq => upd_ne s next q _ fun e =>
        Nat.lt_irrefl _ (e ▸ h q (List.mem_cons_of_mem _ hq)))

theorem clone_spec (ps F : List Nat) (s : Nat → Cell) (next : Nat) (hF : Alloc next F) (hps : ∀ p ∈ ps, p ∈ F) :
    Alloc (clonePtrs s next ps).2.1 (F ++ (clonePtrs s next ps).2.2) ∧
    (∀ q ∈ F, (clonePtrs s next ps).1 q = s q) ∧
    (clonePtrs s next ps).2.2.map (clonePtrs s next ps).1 = ps.map s := by
  obtain ⟨c1, c2, c3, c4⟩ := clonePtrs_spec ps s next fun p hp => hF.2 p (hps p hp)
  refine ⟨?_, fun q hq => c3 q (hF.2 q hq), c4⟩
  rw [c1, c2]
  refine ⟨List.nodup_append.mpr ⟨hF.1, List.nodup_range', fun a ha b hb e => ?_⟩, fun p hp => ?_⟩
  · have := hF.2 a ha; have := (List.mem_range'_1.mp hb).1; omega
  · rcases List.mem_append.mp hp with h | h
    · exact Nat.lt_add_right _ (hF.2 p h)
    · exact (List.mem_range'_1.mp h).2

def objs (st : St) : List Opt := st.defaults :: st.insts

def allPtrs (st : St) : List Nat := (objs st).flatMap (·.ptrs)

def Inv (st : St) : Prop := Alloc st.next (allPtrs st)

def absD (st : St) : Cfg := deref st.store st.defaults
def abs (st : St) : List Cfg := st.insts.map (deref st.store)

theorem mem_allPtrs {st : St} {o : Opt} {p : Nat} (ho : o ∈ objs st) (hp : p ∈ o.ptrs) : p ∈ allPtrs st :=
  List.mem_flatMap.mpr ⟨o, ho, hp⟩

theorem allPtrs_snoc (st : St) (s : Nat → Cell) (n : Nat) (o : Opt) :
    allPtrs { st with store := s, next := n, insts := st.insts ++ [o] } = allPtrs st ++ o.ptrs := by
  simp [allPtrs, objs]

theorem step_new (st : St) (settings : List Setting) (h : Inv st) :
    Inv (step st (.new settings)) ∧ absD (step st (.new settings)) = absD st ∧
    abs (step st (.new settings)) = specStep (absD st) (abs st) (.new settings) := by
  obtain ⟨c1, c2, c3⟩ := clone_spec st.defaults.ptrs (allPtrs st) st.store st.next h
    (fun p hp => mem_allPtrs List.mem_cons_self hp)
  obtain ⟨a1, a2, a3⟩ := applySettings_spec (allPtrs st) settings
    (clonePtrs st.store st.next st.defaults.ptrs).1 _ ⟨st.defaults.format, _⟩ c1
  generalize hr : applySettings _ _ _ settings = r at a1 a2 a3
  have hst : step st (.new settings) = { st with store := r.1, next := r.2.1, insts := st.insts ++ [r.2.2] } := by
    simp only [step, hr]
  rw [hst]
  have hold : ∀ o ∈ objs st, ∀ p ∈ o.ptrs, r.1 p = st.store p :=
    fun o ho p hp => (a2 p (mem_allPtrs ho hp)).trans (c2 p (mem_allPtrs ho hp))
  refine ⟨by rw [Inv, allPtrs_snoc]; exact a1, deref_congr _ _ _ (hold _ List.mem_cons_self), ?_⟩
  show List.map (deref r.1) (st.insts ++ [r.2.2]) = abs st ++ [settings.foldl specSetting (absD st)]
  rw [List.map_append, List.map_singleton, a3]
  simp only [deref, c3]
  exact congrArg (· ++ _) (List.map_congr_left fun o ho => deref_congr _ _ _ (hold o (List.mem_cons_of_mem _ ho)))

theorem step_mutate (st : St) (i k : Nat) (key val : String) (h : Inv st) :
    Inv (step st (.mutate i k key val)) ∧ absD (step st (.mutate i k key val)) = absD st ∧
    abs (step st (.mutate i k key val)) = specStep (absD st) (abs st) (.mutate i k key val) := by
  simp only [step, specStep, abs, List.getElem?_map]
  cases hi : st.insts[i]? with
  | none => exact ⟨h, rfl, rfl⟩
  | some o =>
    simp only [Option.map_some, deref, List.getElem?_map]
    cases hk : o.ptrs[k]? with
    | none => exact ⟨h, rfl, rfl⟩
    | some p =>
      -- the defaults are object 0, instance `i` is object `i + 1`
      have := map_deref_upd st.store h.1 (i := i + 1) (put (st.store p) key val) (os := objs st) hi hk
      simp only [objs, List.map_cons, List.set_cons_succ, List.cons.injEq] at this
      exact ⟨h, this.1, this.2⟩

theorem step_refines (st : St) (op : Op) (h : Inv st) :
    Inv (step st op) ∧ absD (step st op) = absD st ∧ abs (step st op) = specStep (absD st) (abs st) op := by
  cases op with
  | new settings => exact step_new st settings h
  | mutate i k key val => exact step_mutate st i k key val h

theorem run_refines (ops : List Op) (st : St) (h : Inv st) :
    Inv (run st ops) ∧ absD (run st ops) = absD st ∧ abs (run st ops) = specRun (absD st) (abs st) ops :=
  List.foldl_rel (r := fun s insts => Inv s ∧ absD s = absD st ∧ abs s = insts) ⟨h, rfl, rfl⟩
    fun op _ s _ ⟨hs, e1, e2⟩ => e2 ▸ e1 ▸ step_refines s op hs

end Protobom.Opts
