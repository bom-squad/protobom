/- The store: what the entry of an identifier can be in every state of a store, crashed or not. -/
import Protobom.Model.Store

namespace Protobom.Store

theorem fput_same (fs : Files) (n : String) (b : Bytes) : fput fs n b n = some b := by simp [fput]
theorem fput_other (fs : Files) (n m : String) (b : Bytes) (h : m ≠ n) : fput fs n b m = fs m := by simp [fput, h]
theorem fdel_same (fs : Files) (n : String) : fdel fs n n = none := by simp [fdel]
theorem fdel_other (fs : Files) (n m : String) (h : m ≠ n) : fdel fs n m = fs m := by simp [fdel, h]

theorem crash_states_spec (C : Codec) (N : Naming) (fs : Files) (d : SDoc) (tmp : String)
    (htmp : tmp ≠ N.entry d.id) (s : Files) (hs : s ∈ crashStates fs (storeOps C N d tmp)) :
    (∀ m, m ≠ tmp → m ≠ N.entry d.id → s m = fs m) ∧
    (s (N.entry d.id) = fs (N.entry d.id) ∨ s (N.entry d.id) = some (C.enc d)) := by
  have hne : N.entry d.id ≠ tmp := fun e => htmp e.symm
  -- up to the rename only `tmp` changes; the rename puts the complete encoding under the entry name
  suffices h : (∀ m, m ≠ tmp → s m = fs m) ∨
      ((∀ m, m ≠ tmp → m ≠ N.entry d.id → s m = fs m) ∧ s (N.entry d.id) = some (C.enc d)) from
    h.elim (fun h => ⟨fun m hm _ => h m hm, Or.inl (h _ hne)⟩) (fun h => ⟨h.1, Or.inr h.2⟩)
  simp only [crashStates, storeOps, List.mem_cons, List.mem_append, List.mem_map, List.mem_range,
    List.not_mem_nil, or_false] at hs
  have hw : ∀ b m, m ≠ tmp → fput (fput fs tmp []) tmp b m = fs m :=
    fun b m hm => (fput_other _ _ _ _ hm).trans (fput_other _ _ _ _ hm)
  -- the crash states in order: nothing done; temporary file created; `k` bytes of it written; all written;
  -- mode set; renamed over the entry
  rcases hs with rfl | (rfl | ⟨k, _, rfl⟩) | rfl | rfl | rfl
  · exact Or.inl fun _ _ => rfl
  · exact Or.inl fun m hm => fput_other _ _ _ _ hm
  · exact Or.inl (hw _)
  · exact Or.inl (hw _)
  · exact Or.inl (hw _)
  · simp only [apply, fput_same]
    exact Or.inr ⟨fun m hm hme => by rw [fput_other _ _ _ _ hme, fdel_other _ _ _ hm]; exact hw _ m hm, rfl⟩

theorem final_mem_crashStates (fs : Files) (ops : List FsOp) : ops.foldl apply fs ∈ crashStates fs ops := by
  induction ops generalizing fs with
  | nil => simp [crashStates]
  | cons op ops ih =>
    simp only [crashStates, List.foldl_cons, List.mem_cons, List.mem_append]
    exact Or.inr (ih (apply fs op))

theorem retrieve_cases (C : Codec) (N : Naming) (fs : Files) (id : String) :
    retrieve C N fs id = .err ∨
    ∃ b d, id ≠ "" ∧ fs (N.entry id) = some b ∧ C.dec b = some d ∧ d.id = id ∧ retrieve C N fs id = .ok d := by
  unfold retrieve
  by_cases hid : id = ""
  · exact Or.inl (if_pos hid)
  · rw [if_neg hid]
    cases hb : fs (N.entry id) with
    | none => exact Or.inl rfl
    | some b =>
      dsimp only
      cases hd : C.dec b with
      | none => exact Or.inl rfl
      | some d =>
        dsimp only
        by_cases he : d.id = id
        · exact Or.inr ⟨b, d, hid, rfl, hd, he, if_pos he⟩
        · exact Or.inl (if_neg he)

theorem retrieve_congr (C : Codec) (N : Naming) (s fs : Files) (id : String)
    (h : s (N.entry id) = fs (N.entry id)) : retrieve C N s id = retrieve C N fs id := by
  simp only [retrieve, h]

theorem retrieve_of_entry (C : Codec) (N : Naming) (s : Files) (d : SDoc) (hid : d.id ≠ "")
    (h : s (N.entry d.id) = some (C.enc d)) : retrieve C N s d.id = .ok d := by
  simp [retrieve, hid, h, C.rt]

theorem store_cases (C : Codec) (N : Naming) (fs : Files) (d : SDoc) (nc : Bool) (tmp : String) :
    ((d.id = "" ∨ (nc = true ∧ (fs (N.entry d.id)).isSome = true)) ∧ store C N fs d nc tmp = (.err, fs)) ∨
    (d.id ≠ "" ∧ ¬ (nc = true ∧ (fs (N.entry d.id)).isSome = true) ∧
      store C N fs d nc tmp = (.ok (), (storeOps C N d tmp).foldl apply fs)) := by
  unfold store
  by_cases h1 : d.id = ""
  · exact Or.inl ⟨Or.inl h1, if_pos h1⟩
  · by_cases h2 : nc = true ∧ (fs (N.entry d.id)).isSome = true
    · exact Or.inl ⟨Or.inr h2, by rw [if_neg h1, if_pos h2]⟩
    · exact Or.inr ⟨h1, h2, by rw [if_neg h1, if_neg h2]⟩

theorem store_entry_other (C : Codec) (N : Naming) (fs : Files) (d : SDoc) (nc : Bool) (tmp : String)
    (htmp : ∀ i, N.entry i ≠ tmp) (id : String) (hne : id ≠ d.id) :
    (store C N fs d nc tmp).2 (N.entry id) = fs (N.entry id) := by
  rcases store_cases C N fs d nc tmp with ⟨_, e⟩ | ⟨_, _, e⟩ <;> rw [e]
  exact (crash_states_spec C N fs d tmp (fun e => htmp d.id e.symm) _ (final_mem_crashStates fs _)).1 _
    (htmp id) (fun e => hne (N.inj _ _ e))

end Protobom.Store
