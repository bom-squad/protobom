/- Key-unique association lists (the model's Go maps): `List.lookup` against membership, insert-or-replace (a map
   store), and a parser's fold of stores rebuilding the list a serializer wrote out (`foldl_filterMap_fresh`). -/
import Protobom.Proofs.Lists

namespace Protobom

theorem keyUnique_filter {κ β} {l : List (κ × β)} (p : κ × β → Bool) (hnd : (l.map (·.1)).Nodup) :
    ((l.filter p).map (·.1)).Nodup :=
  hnd.sublist (List.filter_sublist.map _)

variable {κ β : Type _} [BEq κ] [LawfulBEq κ]

theorem mem_of_lookup {l : List (κ × β)} {k : κ} {v : β} (h : l.lookup k = some v) : (k, v) ∈ l := by
  obtain ⟨l₁, l₂, rfl, _⟩ := List.lookup_eq_some_iff.mp h
  simp

theorem key_of_lookup {l : List (κ × β)} {k : κ} {v : β} (h : l.lookup k = some v) : k ∈ l.map (·.1) :=
  List.mem_map.mpr ⟨_, mem_of_lookup h, rfl⟩

theorem lookup_isSome_iff_key {l : List (κ × β)} {k : κ} : (l.lookup k).isSome ↔ k ∈ l.map (·.1) := by
  rw [List.lookup_isSome_iff, List.mem_map]
  exact ⟨fun ⟨p, hp, e⟩ => ⟨p, hp, (eq_of_beq e).symm⟩, fun ⟨p, hp, e⟩ => ⟨p, hp, beq_iff_eq.mpr e.symm⟩⟩

theorem lookup_of_mem {l : List (κ × β)} (hnd : (l.map (·.1)).Nodup) {k : κ} {v : β} (h : (k, v) ∈ l) :
    l.lookup k = some v := by
  induction l with
  | nil => cases h
  | cons x xs ih =>
    rw [List.map_cons, List.nodup_cons] at hnd
    rcases List.mem_cons.mp h with rfl | h'
    · simp
    · have : (k == x.1) = false := beq_false_of_ne fun e => hnd.1 (e ▸ List.mem_map.mpr ⟨_, h', rfl⟩)
      rw [List.lookup_cons, this]; exact ih hnd.2 h'

theorem lookup_eq_some_iff_mem {l : List (κ × β)} (hnd : (l.map (·.1)).Nodup) {k : κ} {v : β} :
    l.lookup k = some v ↔ (k, v) ∈ l := ⟨mem_of_lookup, lookup_of_mem hnd⟩

theorem lookup_filter {l : List (κ × β)} (hnd : (l.map (·.1)).Nodup) (p : κ × β → Bool) (k : κ) :
    (l.filter p).lookup k = (l.lookup k).filter (fun v => p (k, v)) := by
  apply Option.ext
  intro v
  rw [lookup_eq_some_iff_mem (keyUnique_filter p hnd), List.mem_filter, Option.filter_eq_some_iff,
    lookup_eq_some_iff_mem hnd]

theorem lookup_eq_iff_mem_iff {l l' : List (κ × β)} (hnd : (l.map (·.1)).Nodup) (hnd' : (l'.map (·.1)).Nodup) :
    (∀ k, l.lookup k = l'.lookup k) ↔ ∀ kv, kv ∈ l ↔ kv ∈ l' :=
  ⟨fun h kv => by rw [← lookup_eq_some_iff_mem hnd, ← lookup_eq_some_iff_mem hnd', h],
   fun h k => Option.ext fun v => by rw [lookup_eq_some_iff_mem hnd, lookup_eq_some_iff_mem hnd', h]⟩

/-- the way Go code compares two maps: same size, and every entry of the first found in the second -/
theorem lookup_eq_iff_length_incl {l l' : List (κ × β)} (hnd : (l.map (·.1)).Nodup) (hnd' : (l'.map (·.1)).Nodup) :
    (∀ k, l.lookup k = l'.lookup k) ↔ l.length = l'.length ∧ ∀ kv ∈ l, l'.lookup kv.1 = some kv.2 := by
  simp only [lookup_eq_iff_mem_iff hnd hnd', nodup_ext_iff_length (nodup_of_map _ hnd) (nodup_of_map _ hnd'),
    lookup_eq_some_iff_mem hnd']
  rfl

theorem lookup_perm {l l' : List (κ × β)} (h : l.Perm l') (hnd : (l.map (·.1)).Nodup) (k : κ) :
    l.lookup k = l'.lookup k :=
  (lookup_eq_iff_mem_iff hnd ((h.map _).nodup_iff.mp hnd)).mpr (fun _ => h.mem_iff) k

/-! ### insert-or-replace (a Go map store on the association list) -/

theorem any_key_iff_mem {κ β} [DecidableEq κ] (m : List (κ × β)) (k : κ) :
    m.any (·.1 = k) = true ↔ k ∈ m.map (·.1) := by
  rw [List.any_eq_true, List.mem_map]
  exact ⟨fun ⟨kv, h, e⟩ => ⟨kv, h, by simpa using e⟩, fun ⟨kv, h, e⟩ => ⟨kv, h, by simpa using e⟩⟩

theorem any_key_false {κ β} [DecidableEq κ] {m : List (κ × β)} {k : κ} (h : ∀ a ∈ m, a.1 ≠ k) :
    m.any (fun x => decide (x.1 = k)) = false := by
  rw [List.any_eq_false]
  exact fun a ha => by simpa using h a ha

/-- the shape of the model's stores (`Cdx.setComp`, `Cdx.addChildren`): replace under `k` if it is bound, else append -/
theorem upsert_keys {κ β} [DecidableEq κ] (m : List (κ × β)) (k : κ) (f : κ × β → κ × β)
    (hf : ∀ kv, (f kv).1 = kv.1) (v : β) :
    (if m.any (·.1 = k) then m.map f else m ++ [(k, v)]).map (·.1) =
      if k ∈ m.map (·.1) then m.map (·.1) else m.map (·.1) ++ [k] := by
  by_cases h : k ∈ m.map (·.1)
  · rw [if_pos ((any_key_iff_mem m k).mpr h), if_pos h, List.map_map]
    exact List.map_congr_left fun kv _ => hf kv
  · rw [if_neg (fun h' => h ((any_key_iff_mem m k).mp h')), if_neg h, List.map_append]; rfl

theorem lookup_replace {κ β} [DecidableEq κ] (m : List (κ × β)) (k x : κ) (c : β) :
    (m.map fun kv => if kv.1 = k then (k, c) else kv).lookup x =
      if x = k then (m.lookup k).map fun _ => c else m.lookup x := by
  induction m with
  | nil => split <;> rfl
  | cons y ys ih =>
    obtain ⟨yk, yv⟩ := y
    rw [List.map_cons, List.lookup_cons, List.lookup_cons, List.lookup_cons, ih]
    by_cases hx : x = k
    · subst hx
      by_cases hy : yk = x
      · subst hy; simp
      · simp [hy, beq_false_of_ne (Ne.symm hy)]
    · by_cases hy : yk = k
      · subst hy; simp [hx, beq_false_of_ne hx]
      · simp [hx, hy]

/-- How every parser rebuilds a map: `g` is what the serializer writes for an entry of the key-unique list `L`,
    `step` the parser's store of it, which appends the entry to a map that does not bind its key yet. -/
theorem foldl_filterMap_fresh {α κ β} (g : κ × β → Option α) (step : List (κ × β) → α → List (κ × β))
    (L acc : List (κ × β))
    (hg : ∀ kv ∈ L, ∃ x, g kv = some x ∧ ∀ m, (∀ a ∈ m, a.1 ≠ kv.1) → step m x = m ++ [kv])
    (hnd : (L.map (·.1)).Nodup) (hdis : ∀ kv ∈ L, ∀ a ∈ acc, a.1 ≠ kv.1) :
    (L.filterMap g).foldl step acc = acc ++ L := by
  induction L generalizing acc with
  | nil => simp
  | cons kv rest ih =>
    rw [List.map_cons, List.nodup_cons] at hnd
    obtain ⟨x, hx, hs⟩ := hg kv List.mem_cons_self
    rw [List.filterMap_cons, hx, List.foldl_cons, hs acc (hdis kv List.mem_cons_self),
      ih _ (fun kv' h' => hg kv' (List.mem_cons_of_mem _ h')) hnd.2, List.append_assoc]
    · rfl
    · intro kv' hkv' a ha
      rcases List.mem_append.mp ha with h | h
      · exact hdis kv' (List.mem_cons_of_mem _ hkv') a h
      · rw [List.mem_singleton.mp h]
        exact fun e => hnd.1 (List.mem_map.mpr ⟨kv', hkv', e.symm⟩)

end Protobom
