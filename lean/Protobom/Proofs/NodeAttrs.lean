/- Attribute-level lemmas: `zipAttrs`, `update`, `augment`, and the node-level characterisation of
   the `mergeNodes` loop under unique identifiers. -/
import Protobom.Proofs.Union
import Protobom.Proofs.Lists

namespace Protobom

theorem zipAttrs_length (g : String → Kind → Val → Val → Val) (fs : List (String × Kind)) (as bs : List Val) :
    (zipAttrs g fs as bs).length = as.length := by
  fun_induction zipAttrs g fs as bs <;> simp [*]

theorem zipAttrs_get (g : String → Kind → Val → Val → Val) (fs : List (String × Kind)) (as bs : List Val)
    (ha : as.length = fs.length) (hb : bs.length = fs.length) (i : Nat) (hi : i < fs.length) :
    (zipAttrs g fs as bs)[i]? =
      some (g (fs[i]'hi).1 (fs[i]'hi).2 (as[i]'(ha ▸ hi)) (bs[i]'(hb ▸ hi))) := by
  induction fs generalizing as bs i with
  | nil => cases hi
  | cons f fs ih =>
    match as, bs, ha, hb with
    | a :: as, b :: bs, ha, hb =>
      cases i with
      | zero => rfl
      | succ i => exact ih as bs (by simpa using ha) (by simpa using hb) i (by simpa using hi)

/-- `Update` and `Augment` handle every attribute of the schema (regenerated tables, checked by
    evaluation) -/
theorem schema_covered : ∀ fk ∈ Gen.Schema.nodeAttrs,
    updateHandles fk.1 fk.2 = true ∧ augmentHandles fk.1 fk.2 = true := by decide +kernel

theorem zipAttrs_schema (g : String → Kind → Val → Val → Val) (n m : Node) (hn : n.shaped)
    (hm : m.shaped) (i : Nat) (hi : i < Gen.Schema.nodeAttrs.length) :
    ∃ a b, n.attrs[i]? = some a ∧ m.attrs[i]? = some b ∧
      (zipAttrs g Gen.Schema.nodeAttrs n.attrs m.attrs)[i]? =
        some (g Gen.Schema.nodeAttrs[i].1 Gen.Schema.nodeAttrs[i].2 a b) := by
  have hn' : n.attrs.length = Gen.Schema.nodeAttrs.length := by simpa [Node.shaped] using hn
  have hm' : m.attrs.length = Gen.Schema.nodeAttrs.length := by simpa [Node.shaped] using hm
  exact ⟨_, _, List.getElem?_eq_getElem (hn' ▸ hi), List.getElem?_eq_getElem (hm' ▸ hi),
    zipAttrs_get g _ _ _ hn' hm' i hi⟩

theorem update_attr (n m : Node) (hn : n.shaped) (hm : m.shaped) (i : Nat)
    (hi : i < Gen.Schema.nodeAttrs.length) :
    (n.update m).attrs[i]? =
      if (m.attrs[i]?.getD (.str "")).isEmpty then n.attrs[i]? else m.attrs[i]? := by
  obtain ⟨a, b, ha, hb, hz⟩ := zipAttrs_schema _ n m hn hm i hi
  rw [Node.update, hz, ha, hb, (schema_covered _ (List.getElem_mem hi)).1]
  cases h : b.isEmpty <;> simp [h]

theorem update_shaped (n m : Node) (hn : n.shaped) : (n.update m).shaped := by
  simp only [Node.shaped, Node.update, zipAttrs_length] at *; exact hn

theorem augment_shaped (n m : Node) (hn : n.shaped) : (n.augment m).shaped := by
  simp only [Node.shaped, Node.augment, zipAttrs_length] at *; exact hn

/-- with unique identifiers at most one node has identifier `i`, so modifying the first one, or the
    last one, is a `map` -/
theorem modifyFirst_eq_map (l : List Node) (i : String) (g : Node → Node)
    (hnd : (l.map (·.id)).Nodup) :
    modifyFirst (·.id = i) g l = l.map (fun p => if p.id = i then g p else p) := by
  induction l with
  | nil => rfl
  | cons x xs ih =>
    rw [List.map_cons, List.nodup_cons, List.mem_map] at hnd
    rw [modifyFirst, List.map_cons]
    split <;> rename_i hx <;> simp only [decide_eq_true_eq] at hx
    · rw [if_pos hx, map_ite_eq_self _ g xs fun p hp h => hnd.1 ⟨p, hp, h.trans hx.symm⟩]
    · rw [if_neg hx, ih hnd.2]

theorem modifyLast_eq_map (l : List Node) (i : String) (g : Node → Node)
    (hnd : (l.map (·.id)).Nodup) :
    modifyLast (·.id = i) g l = l.map (fun p => if p.id = i then g p else p) := by
  rw [modifyLast, modifyFirst_eq_map _ i g (by rw [List.map_reverse]; exact List.pairwise_reverse.mpr (hnd.imp Ne.symm)),
    ← List.map_reverse, List.reverse_reverse]

/-- a node absent from the stale index `ids0` changes nothing in the first component either way,
    so under unique identifiers the loop is a `map` of a per-node fold -/
theorem mergeNodes_fst_eq (f : Node → Node → Node) (hf : ∀ n m, (f n m).id = n.id)
    (ids0 : List String) (h0 : ids0.Nodup) (l acc ns2 : List Node) (hl : l.map (·.id) = ids0) :
    (mergeNodes f ids0 (l, acc) ns2).1 =
      l.map fun p => ns2.foldl (fun p n => if p.id = n.id then f p n else p) p := by
  induction ns2 generalizing l acc with
  | nil => simp [mergeNodes]
  | cons n ns ih =>
    have step : mergeNodes f ids0 (l, acc) (n :: ns) = mergeNodes f ids0
        (l.map fun p => if p.id = n.id then f p n else p, if n.id ∈ ids0 then acc else acc ++ [n]) ns := by
      rw [mergeNodes_cons]
      split
      · rw [modifyLast_eq_map l n.id _ (hl ▸ h0)]
      · rename_i hn
        rw [map_ite_eq_self (·.id = n.id) _ l fun p hp h => hn (hl ▸ h ▸ List.mem_map_of_mem hp)]
    have hids : (l.map fun p => if p.id = n.id then f p n else p).map (·.id) = ids0 := by
      rw [← hl, List.map_map]
      exact List.map_congr_left fun p _ => by simp only [Function.comp]; split <;> simp [hf]
    rw [step, ih _ _ hids, List.map_map]; rfl

theorem foldl_combine_iff (f : Node → Node → Node) (hf : ∀ n m, (f n m).id = n.id) (ns2 : List Node)
    (h2 : (ns2.map (·.id)).Nodup) (p x : Node) :
    ns2.foldl (fun p n => if p.id = n.id then f p n else p) p = x ↔
      (∃ q ∈ ns2, q.id = p.id ∧ x = f p q) ∨ (p.id ∉ ns2.map (·.id) ∧ x = p) := by
  induction ns2 generalizing p with
  | nil => simp [eq_comm]
  | cons n ns ih =>
    rw [List.map_cons, List.nodup_cons] at h2
    rw [List.foldl_cons, ih h2.2]
    simp only [List.mem_cons, List.map_cons, exists_eq_or_imp, not_or]
    split <;> rename_i hp
    · -- `n` is the node with `p`'s identifier, and the only one
      have hn : ∀ q ∈ ns, ¬ q.id = n.id := fun q hq h => h2.1 (List.mem_map.mpr ⟨q, hq, h⟩)
      simp only [hf, hp, not_true, false_and, or_false, true_and]
      exact ⟨fun h => h.elim (fun ⟨q, hq, h, _⟩ => absurd h (hn q hq)) fun h => .inl h.2,
        fun h => h.elim (fun h => .inr ⟨h2.1, h⟩) fun ⟨q, hq, h, _⟩ => absurd h (hn q hq)⟩
    · simp only [show ¬ n.id = p.id from fun h => hp h.symm, hp, false_and, false_or,
        not_false_eq_true, true_and]

theorem merged_nodes_char (f : Node → Node → Node) (hf : ∀ n m, (f n m).id = n.id)
    (base ns2 : List Node) (h1 : (base.map (·.id)).Nodup) (h2 : (ns2.map (·.id)).Nodup) (x : Node) :
    x ∈ (mergeNodes f (base.map (·.id)) (base, []) ns2).1 ++
        (mergeNodes f (base.map (·.id)) (base, []) ns2).2 ↔
      (∃ p ∈ base, (∃ q ∈ ns2, q.id = p.id ∧ x = f p q) ∨ (p.id ∉ ns2.map (·.id) ∧ x = p)) ∨
      (x ∈ ns2 ∧ x.id ∉ base.map (·.id)) := by
  rw [List.mem_append, mergeNodes_fst_eq f hf _ h1 base [] ns2 rfl, mergeNodes_snd]
  simp only [List.mem_map, foldl_combine_iff f hf ns2 h2, List.nil_append, List.mem_filter,
    decide_eq_true_eq]

end Protobom
