/- Node matching: the declarative rule `specMatch`, `getMatchingNode` computes it, and it does not see the order of the nodes. -/
import Protobom.Model.Graph

namespace Protobom

inductive Card where
  | zero | one (n : Node) | many

def card : List Node → Card
  | [] => .zero
  | [n] => .one n
  | _ :: _ :: _ => .many

theorem card_perm {l l' : List Node} (h : l.Perm l') : card l = card l' := by
  match l, l', h with
  | [], l', h => rw [List.Perm.eq_nil (h.symm)]
  | [n], l', h => rw [List.perm_singleton.mp h.symm]
  | a :: b :: l, l', h =>
    have hl := h.length_eq
    match l', hl with
    | c :: d :: l'', _ => rfl

/-- the documented matching rule, written declaratively:
    a unique node whose common hash algorithms all agree; else (no such node) a unique node with
    the same package URL; the package URL breaks ties among several hash matches; otherwise an
    explicit ambiguity -/
def specMatch (nl : NodeList) (p : Node) : MatchResult :=
  let byHash := nl.nodes.filter (fun n => n.hashesMatch p.hashes)
  match card byHash with
  | .one n => .found n
  | .zero =>
    if p.purl = "" then .none else
    match card (nl.nodes.filter (fun n => n.purl = p.purl)) with
    | .zero => .none
    | .one n => .found n
    | .many => .ambiguous
  | .many =>
    if p.purl = "" then .ambiguous else
    match card (byHash.filter (fun n => n.purl = p.purl)) with
    | .one n => .found n
    | _ => .ambiguous

theorem hashesMatch_indexed (nh th : List (Int × String)) (h : hashesMatchL nh th = true) :
    th.any (fun kv => nh.lookup kv.1 = some kv.2) = true := by
  unfold hashesMatchL at h
  split at h
  · cases h
  · simp only [Bool.and_eq_true, List.all_eq_true, List.mem_filter, decide_eq_true_eq,
      Bool.not_eq_true', List.isEmpty_eq_false_iff_exists_mem] at h
    obtain ⟨hall, kv, hkv⟩ := h
    rw [List.any_eq_true]
    exact ⟨kv, hkv.1, by simpa using hall kv hkv⟩

theorem match_cands_eq (nl : NodeList) (p : Node) :
    nl.nodes.filter (fun n => (p.hashes.any (fun kv => n.hashes.lookup kv.1 = some kv.2)) ∧
        n.hashesMatch p.hashes) = nl.nodes.filter (fun n => n.hashesMatch p.hashes) := by
  apply List.filter_congr
  intro n _
  by_cases hm : n.hashesMatch p.hashes = true
  · have := hashesMatch_indexed n.hashes p.hashes hm
    simp [hm, this]
  · simp [hm]

/-- among candidates the tie-break asks for a non-empty package URL equal to the probe's; it is
    only reached with a non-empty probe URL, where the first condition adds nothing -/
theorem purl_tie_eq (cs : List Node) (p : Node) (hp : p.purl ≠ "") :
    cs.filter (fun n => n.purl ≠ "" ∧ n.purl = p.purl) = cs.filter (fun n => n.purl = p.purl) :=
  List.filter_congr fun n _ => by by_cases hn : n.purl = p.purl <;> simp [hn, hp]

theorem getMatchingNode_eq_spec (nl : NodeList) (p : Node) : nl.getMatchingNode p = specMatch nl p := by
  unfold NodeList.getMatchingNode specMatch
  simp only [match_cands_eq]
  generalize nl.nodes.filter (fun n => n.hashesMatch p.hashes) = cs
  -- both sides branch on the same three shapes of the same lists
  rcases cs with _ | ⟨a, _ | ⟨b, cs⟩⟩
  · simp only [card]
    split
    · rfl
    · generalize nl.nodes.filter (fun n => decide (n.purl = p.purl)) = ps
      rcases ps with _ | ⟨_, _ | _⟩ <;> rfl
  · rfl
  · simp only [card]
    split
    · rfl
    · rw [purl_tie_eq _ p ‹_›]
      generalize (a :: b :: cs).filter (fun n => decide (n.purl = p.purl)) = ps
      rcases ps with _ | ⟨_, _ | _⟩ <;> rfl

theorem specMatch_perm (a b : NodeList) (p : Node) (h : a.nodes.Perm b.nodes) :
    specMatch a p = specMatch b p := by
  unfold specMatch
  have h1 := card_perm (h.filter (fun n => n.hashesMatch p.hashes))
  have h2 := card_perm (h.filter (fun n => decide (n.purl = p.purl)))
  have h3 := card_perm ((h.filter (fun n => n.hashesMatch p.hashes)).filter (fun n => decide (n.purl = p.purl)))
  simp only [h1, h2, h3]

theorem mem_of_card_one {l : List Node} {m : Node} (h : card l = .one m) : m ∈ l := by
  match l, h with
  | [x], h => cases h; exact List.mem_singleton.mpr rfl

/-- every `.found n` of the rule is the single element of a filter of the node list -/
theorem specMatch_mem (nl : NodeList) (p n : Node) (h : specMatch nl p = .found n) : n ∈ nl.nodes := by
  have hc := @mem_of_card_one
  unfold specMatch at h
  grind

theorem hashesMatchL_perm (nh th th' : List (Int × String)) (h : th.Perm th') :
    hashesMatchL nh th = hashesMatchL nh th' := by
  have hf := h.filter (fun kv => (nh.lookup kv.1).isSome)
  simp only [hashesMatchL, h.isEmpty_eq, hf.all_eq, hf.isEmpty_eq]

end Protobom
