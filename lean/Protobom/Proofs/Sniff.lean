/- Format detection: the one fact the parse path (C04) and the detection property (C06) share. -/
import Protobom.Model.Sniff

namespace Protobom.Sniff

theorem sniffReader_not_panic (i : Input) : (sniffReader i).1.isPanic = false := by
  unfold sniffReader
  split
  · split <;> rfl
  · simp only; split <;> rfl

end Protobom.Sniff
