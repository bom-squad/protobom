/- Per-node attributes across the CycloneDX round trip, through a record of what a node holds
   (`View`): `componentToNode` stores the view of a component in a node, `nodeToComponent` writes the
   component of the view it reads in one, and a node written, converted and read back (`rtNode v`)
   holds `pass v` of what it held. Hash maps over CycloneDX algorithms come back in key order. -/
import Protobom.Proofs.Cdx
import Protobom.Proofs.Attrs
import Protobom.Proofs.Flat

namespace Protobom.Cdx
open Protobom Gen

/-- a node written as a component, converted for spec version 1.`v`, and read back -/
def rtNode (v : Nat) (n : Node) : Node := componentToNode (convComp v (nodeToComponent n)) 0

/-- what `componentToNode` stores in a node and `nodeToComponent` reads in one. A node holds `V` (`V.HeldBy N`) when
    its type is `V.kind` and its attributes under the ten schema names below are the fields of `V`; `V.node id` is
    the node that holds `V` and nothing else, `readView N` the view that `N` holds if it holds one. -/
structure View where
  kind : Int
  name : String
  ver : String
  desc : String
  cp : String
  lic : List String
  concl : String
  pur : List Int
  refs : List ExtRef
  ids : List (Int × String)
  hs : List (Int × String)

def View.attr (V : View) (f : String) (k : Kind) : Val :=
  if f = "Name" then .str V.name
  else if f = "Version" then .str V.ver
  else if f = "Licenses" then .strs V.lic
  else if f = "LicenseConcluded" then .str V.concl
  else if f = "Copyright" then .str V.cp
  else if f = "Hashes" then .imap V.hs
  else if f = "Description" then .str V.desc
  else if f = "ExternalReferences" then .refs V.refs
  else if f = "Identifiers" then .imap V.ids
  else if f = "PrimaryPurpose" then .enums V.pur
  else k.zero

def View.node (V : View) (id : String) : Node :=
  { id := id, typ := V.kind, attrs := Schema.nodeAttrs.map fun fk => V.attr fk.1 fk.2 }

def readView (n : Node) : View :=
  { kind := n.typ, name := Spdx.Node.str n "Name", ver := Spdx.Node.str n "Version",
    desc := Spdx.Node.str n "Description", cp := Spdx.Node.str n "Copyright", lic := Spdx.Node.strs n "Licenses",
    concl := Spdx.Node.str n "LicenseConcluded", pur := Spdx.Node.enums n "PrimaryPurpose",
    refs := Spdx.Node.refs n "ExternalReferences", ids := n.identifiers, hs := n.hashes }

/-- what the parser takes from a component -/
def Component.view : Component → View
  | .mk _ t n v d cp purl cpe lic hs xs _ _ =>
    { kind := if purposeIn t = 12 then 1 else 0, name := n, ver := v, desc := d, cp := cp, lic := licenseList lic,
      concl := licenseString lic, pur := [purposeIn t], refs := compRefs xs, ids := compIds purl cpe,
      hs := compHashes hs }

theorem componentToNode_eq (C : Component) (cc : Nat) :
    componentToNode C cc = C.view.node (componentToNode C cc).id := by cases C; rfl

def View.HeldBy (V : View) (N : Node) : Prop :=
  N.typ = V.kind ∧
  N.attr "Name" = some (.str V.name) ∧ N.attr "Version" = some (.str V.ver) ∧ N.attr "Description" = some (.str V.desc) ∧
  N.attr "Copyright" = some (.str V.cp) ∧ N.attr "Licenses" = some (.strs V.lic) ∧
  N.attr "LicenseConcluded" = some (.str V.concl) ∧ N.attr "PrimaryPurpose" = some (.enums V.pur) ∧
  N.attr "ExternalReferences" = some (.refs V.refs) ∧ N.attr "Identifiers" = some (.imap V.ids) ∧
  N.attr "Hashes" = some (.imap V.hs)

theorem View.node_holds (V : View) (id : String) : V.HeldBy (V.node id) := by
  have A : ∀ {f k val}, (f, k) ∈ Schema.nodeAttrs → V.attr f k = val → (V.node id).attr f = some val :=
    fun h e => e ▸ Spdx.attr_of_schema_map V.attr id V.kind _ _ h
  -- the numbers are the rows of the ten names in `Schema.nodeAttrs` (`rfl` checks the one row)
  refine ⟨rfl, A (Spdx.schema_at 0 rfl) ?_, A (Spdx.schema_at 1 rfl) ?_, A (Spdx.schema_at 12 rfl) ?_,
    A (Spdx.schema_at 8 rfl) ?_, A (Spdx.schema_at 5 rfl) ?_, A (Spdx.schema_at 6 rfl) ?_, A (Spdx.schema_at 23 rfl) ?_,
    A (Spdx.schema_at 19 rfl) ?_, A (Spdx.schema_at 21 rfl) ?_, A (Spdx.schema_at 22 rfl) ?_⟩ <;>
    simp only [View.attr, String.reduceEq, ↓reduceIte]

theorem View.HeldBy.read {V : View} {N : Node} (h : V.HeldBy N) : readView N = V := by
  obtain ⟨a0, a1, a2, a3, a4, a5, a6, a7, a8, a9, a10⟩ := h
  unfold readView
  rw [a0, Spdx.Node.str_of_attr a1, Spdx.Node.str_of_attr a2, Spdx.Node.str_of_attr a3, Spdx.Node.str_of_attr a4,
    Spdx.Node.strs_of_attr a5, Spdx.Node.str_of_attr a6, Spdx.Node.enums_of_attr a7, Spdx.Node.refs_of_attr a8,
    show N.identifiers = V.ids from Spdx.Node.mapAttr_of_attr a9, show N.hashes = V.hs from Spdx.Node.mapAttr_of_attr a10]

abbrev refOut (r : ExtRef) : CRef := { url := r.url, comment := r.comment, typ := refTypeOut r.typ, hashes := hashesOut r.hashes }

/-- the component the serializer writes for a node that holds `V` (the supplier aside: it does not come back) -/
def View.comp (V : View) (id : String) (s : Option (String × List Contact)) : Component :=
  .mk id
    (if V.kind = 1 then "file" else match V.pur with | p :: _ => (purposeOut p).getD "" | [] => "")
    V.name V.ver V.desc V.cp ((V.ids.lookup 1).getD "")
    (match V.ids.lookup 3 with | some c => c | none => (V.ids.lookup 2).getD "")
    (match V.lic with | [] => none | ls => some (ls.map (fun l => { license := some l })))
    (hashesOut V.hs)
    (V.refs.map refOut) s []

theorem nodeToComponent_eq (n : Node) : ∃ s, nodeToComponent n = (readView n).comp n.id s := by
  simp only [nodeToComponent, View.comp, readView]
  -- with the reads named, matching the two `match`es does not evaluate `attrIdx` on their names
  generalize Spdx.Node.enums n "PrimaryPurpose" = a, Spdx.Node.strs n "Licenses" = b, n.identifiers = c,
    Spdx.Node.persons n "Suppliers" = d
  exact ⟨_, rfl⟩

/-- one write-convert-read pass, on what a node holds -/
def pass (v : Nat) (V : View) : View := (convComp v (V.comp "" none)).view

theorem view_convComp (v : Nat) (V : View) (id : String) (s : Option (String × List Contact)) :
    (convComp v (V.comp id s)).view = pass v V := rfl

theorem rtNode_eq (v : Nat) (n : Node) : rtNode v n = (pass v (readView n)).node (rtNode v n).id := by
  obtain ⟨s, hs⟩ := nodeToComponent_eq n
  rw [← view_convComp v _ n.id s, ← hs]
  exact componentToNode_eq _ 0

theorem rtNode_holds (v : Nat) (n : Node) : (pass v (readView n)).HeldBy (rtNode v n) := by
  have h := (pass v (readView n)).node_holds (rtNode v n).id
  rwa [← rtNode_eq] at h

theorem readView_rtNode (v : Nat) (n : Node) : readView (rtNode v n) = pass v (readView n) := (rtNode_holds v n).read

theorem licenseList_map (ls : List String) :
    licenseList (some (ls.map (fun l => ({ license := some l } : LicChoice)))) =
      (match ls.find? (· ≠ "") with | some l => [l] | none => []) := by
  simp only [licenseList]
  induction ls with
  | nil => simp
  | cons a as ih =>
    simp only [List.map_cons, List.find?_cons]
    by_cases ha : a = ""
    · simpa [ha, licenseID] using ih
    · simp [ha, licenseID]

/-- the attributes of the node that comes back for `n`, in the forms the properties use -/
theorem rtNode_attrs (v : Nat) (n : Node) :
    let N := rtNode v n
    let t0 := if n.typ = 1 then "file" else
      match Spdx.Node.enums n "PrimaryPurpose" with | p :: _ => (purposeOut p).getD "" | [] => ""
    N.attr "Name" = some (.str (Spdx.Node.str n "Name")) ∧
    N.attr "Version" =
      some (.str (if v < 4 ∧ Spdx.Node.str n "Version" = "" then "0.0.0" else Spdx.Node.str n "Version")) ∧
    N.attr "Description" = some (.str (Spdx.Node.str n "Description")) ∧
    N.attr "Copyright" = some (.str (Spdx.Node.str n "Copyright")) ∧
    N.attr "Licenses" = some (.strs (match (Spdx.Node.strs n "Licenses").find? (· ≠ "") with
      | some l => [l] | none => [])) ∧
    N.attr "PrimaryPurpose" = some (.enums [purposeIn (if supportsType v t0 then t0 else "application")]) ∧
    N.attr "ExternalReferences" = some (.refs ((Spdx.Node.refs n "ExternalReferences").map (fun r =>
      ({ url := r.url, comment := r.comment, typ := refTypeIn (convRef v { typ := refTypeOut r.typ }).typ,
         hashes := (hashesOut r.hashes).foldl (fun m h => Spdx.mapStore m (hashIn h.algo) h.value) [] } : ExtRef)))) ∧
    N.attr "Identifiers" = some (.imap (compIds ((n.identifiers.lookup 1).getD "")
      ((n.identifiers.lookup 3).getD ((n.identifiers.lookup 2).getD "")))) ∧
    N.attr "Hashes" = some (.imap (compHashes (hashesOut n.hashes))) := by
  have h := rtNode_holds v n
  unfold readView at h
  -- the reads that a `match` looks at are named first, as in `nodeToComponent_eq`: to compare two such
  -- `match`es the unifier evaluates `attrIdx` on the name of the read, string comparison by string comparison
  generalize Spdx.Node.enums n "PrimaryPurpose" = e, Spdx.Node.strs n "Licenses" = l, n.identifiers = m at h ⊢
  simp only [View.HeldBy, pass, View.comp, convComp, Component.view] at h
  obtain ⟨-, a1, a2, a3, a4, a5, -, a7, a8, a9, a10⟩ := h
  refine ⟨a1, a2, a3, a4, a5.trans ?_, a7, a8.trans ?_, a9.trans ?_, a10⟩
  · cases l with
    | nil => rfl
    | cons x xs => exact congrArg _ (congrArg _ (licenseList_map (x :: xs)))
  · simp only [compRefs, List.map_map]; rfl
  · cases m.lookup 3 <;> rfl

theorem rtNode_id (v : Nat) (n : Node) (h : n.id ≠ "") : (rtNode v n).id = n.id := by
  simp [rtNode, nodeToComponent, convComp, componentToNode, h]

/-- `h12`: purpose 12 is FILE, and a component whose type reads as FILE comes back as a FILE node -/
theorem rtNode_native_type (v : Nat) (L : List Int)
    (hL : ∀ p ∈ L, (purposeOut p).map (fun t => purposeIn (if supportsType v t then t else "application")) = some p)
    (h12 : (12 : Int) ∉ L) (n : Node) (p : Int) (rest : List Int) (h : n.typ ≠ 1)
    (hp : p ∈ L) (hn : Spdx.Node.enums n "PrimaryPurpose" = p :: rest) :
    (rtNode v n).typ = 0 ∧ (rtNode v n).attr "PrimaryPurpose" = some (.enums [p]) := by
  have h1 := hL p hp
  cases ho : purposeOut p with
  | none => rw [ho] at h1; simp at h1
  | some t =>
    rw [ho] at h1
    simp only [Option.map_some, Option.some.injEq] at h1
    have hne : p ≠ 12 := fun e => h12 (e ▸ hp)
    constructor
    · simp [rtNode, nodeToComponent, convComp, componentToNode, h, hn, ho, h1, hne]
    · obtain ⟨_, _, _, _, _, hPur, _⟩ := rtNode_attrs v n
      rw [hPur]; simp [h, hn, ho, h1]

/-- both readers' hash loops (`compHashes`, the `mapStore` fold of `compRefs`) are a `step` that
    appends the entry of an algorithm not stored yet -/
theorem foldl_hashesOut (step : List (Int × String) → Hash → List (Int × String))
    (hstep : ∀ acc k v name, hashFromCDX name = k → hashIn name = k → k ≠ 0 → (∀ a ∈ acc, a.1 ≠ k) →
      step acc ⟨name, v⟩ = acc ++ [(k, v)])
    (m : List (Int × String)) (hk : ∀ kv ∈ m, kv.1 ∈ cdxHashes) (hnd : (m.map (·.1)).Nodup) :
    (hashesOut m).foldl step [] = sortedByKey m := by
  refine foldl_filterMap_fresh _ step (sortedByKey m) [] (fun kv hkv => ?_) (sortedByKey_keys_nodup m hnd)
    (fun _ _ _ ha => nomatch ha)
  have h := cdx_hash_roundtrip kv.1 (sortedByKey_in m _ hk kv hkv)
  cases ho : hashOut kv.1 with
  | none => rw [ho] at h; cases h.1
  | some name =>
    rw [ho] at h
    simp only [Option.map_some, Option.some.injEq] at h
    exact ⟨⟨name, kv.2⟩, rfl, fun acc => hstep acc kv.1 kv.2 name h.1 h.2.1 h.2.2⟩

theorem compHashes_hashesOut (m : List (Int × String)) (hk : ∀ kv ∈ m, kv.1 ∈ cdxHashes) (hnd : (m.map (·.1)).Nodup) :
    compHashes (hashesOut m) = sortedByKey m :=
  foldl_hashesOut _ (fun acc k v name h1 _ h0 hd => by
    simp only [h1, h0, if_false, any_key_false hd, Bool.false_eq_true]) m hk hnd

theorem refHashes_hashesOut (m : List (Int × String)) (hk : ∀ kv ∈ m, kv.1 ∈ cdxHashes) (hnd : (m.map (·.1)).Nodup) :
    (hashesOut m).foldl (fun acc h => Spdx.mapStore acc (hashIn h.algo) h.value) [] = sortedByKey m :=
  foldl_hashesOut _ (fun acc k v name _ h2 _ hd => by
    simp only [h2, Spdx.mapStore, any_key_false hd, Bool.false_eq_true, if_false]) m hk hnd
