/- `connectedIndexRecursion` (worklist form) computes exactly the bounded reachability relation;
   `NodeGraph` and `NodeSiblings` on the three sets. -/
import Protobom.Proofs.WF

namespace Protobom

theorem mem_flatMap_tos (es : List Edge) (x y : String) :
    y ∈ (es.filter (·.src = x)).flatMap (·.tos) ↔ ∃ t, HasEdgeL es x t y := by
  simp only [List.mem_flatMap, List.mem_filter, decide_eq_true_eq, HasEdgeL]
  exact ⟨fun ⟨e, ⟨he, hs⟩, hy⟩ => ⟨e.ty, e, he, hs, rfl, hy⟩, fun ⟨_, e, he, hs, _, hy⟩ => ⟨e, ⟨he, hs⟩, hy⟩⟩

/-- existing targets of the edges leaving `x` (no special case for the empty identifier here) -/
def NodeList.targets (nl : NodeList) (x : String) : List String :=
  ((nl.edges.filter (·.src = x)).flatMap (·.tos)).filter (· ∈ nl.ids)

theorem mem_targets (nl : NodeList) (x y : String) :
    y ∈ nl.targets x ↔ (∃ t, nl.HasEdge x t y) ∧ y ∈ nl.ids := by
  simp only [NodeList.targets, List.mem_filter, mem_flatMap_tos, decide_eq_true_eq, NodeList.HasEdge]

theorem mem_succ (nl : NodeList) (x y : String) :
    y ∈ nl.succ x ↔ x ≠ "" ∧ (∃ t, nl.HasEdge x t y) ∧ y ∈ nl.ids := by
  rw [← mem_targets]
  by_cases hx : x = ""
  · simp [NodeList.succ, hx]
  · rw [show nl.succ x = nl.targets x from if_neg hx]; exact (and_iff_right hx).symm

theorem succ_mem_ids (nl : NodeList) (x y : String) (h : y ∈ nl.succ x) : y ∈ nl.ids :=
  ((mem_succ nl x y).mp h).2.2

theorem succ_congr {a b : NodeList} (h : a ≃ₙ b) (x y : String) : y ∈ a.succ x ↔ y ∈ b.succ x := by
  simp only [mem_succ, h.edges, h.ids]

theorem targets_congr {a b : NodeList} (h : a ≃ₙ b) (x y : String) :
    y ∈ a.targets x ↔ y ∈ b.targets x := by
  simp only [mem_targets, h.edges, h.ids]

/-- a node the traversal may enter: present and not a boundary (root element) -/
def Allowed (nl : NodeList) (bnd : List String) (y : String) : Prop := y ∈ nl.ids ∧ y ∉ bnd

/-- paths along `succ` whose every entered node is allowed -/
inductive Path (nl : NodeList) (bnd : List String) : String → String → Prop
  | refl (x) : Path nl bnd x x
  | step {x y z} : y ∈ nl.succ x → Allowed nl bnd y → Path nl bnd y z → Path nl bnd x z

theorem Path.trans {nl : NodeList} {bnd : List String} {x y z : String}
    (h1 : Path nl bnd x y) (h2 : Path nl bnd y z) : Path nl bnd x z := by
  induction h1 with
  | refl => exact h2
  | step hs ha _ ih => exact Path.step hs ha (ih h2)

theorem Path.mem_ids {nl : NodeList} {bnd : List String} {x z : String} (hp : Path nl bnd x z)
    (hx : x ∈ nl.ids) : z ∈ nl.ids := by
  induction hp with
  | refl => exact hx
  | step _ ha _ ih => exact ih ha.1

theorem Allowed.mono {nl : NodeList} {bnd bnd' : List String} (h : ∀ y ∈ bnd', y ∈ bnd) {x : String}
    (ha : Allowed nl bnd x) : Allowed nl bnd' x := ⟨ha.1, fun hb => ha.2 (h _ hb)⟩

theorem Path.mono {nl : NodeList} {bnd bnd' : List String} (h : ∀ y ∈ bnd', y ∈ bnd) {x z : String}
    (hp : Path nl bnd x z) : Path nl bnd' x z := by
  induction hp with
  | refl => exact .refl _
  | step hs ha _ ih => exact .step hs (ha.mono h) ih

theorem Path.split {nl : NodeList} {bnd : List String} (x : String) {w z : String} (hp : Path nl bnd w z) :
    (w ≠ x ∧ Path nl (x :: bnd) w z) ∨ z = x ∨
      ∃ y ∈ nl.succ x, Allowed nl (x :: bnd) y ∧ Path nl (x :: bnd) y z := by
  induction hp with
  | refl w => exact (Classical.em (w = x)).elim (.inr ∘ .inl) fun h => .inl ⟨h, .refl _⟩
  | @step w y z hs ha _ ih =>
    refine ih.elim (fun ⟨hy, h⟩ => ?_) .inr
    have hya : Allowed nl (x :: bnd) y := ⟨ha.1, by simp [hy, ha.2]⟩
    by_cases hw : w = x
    · exact .inr (.inr ⟨y, hw ▸ hs, hya, h⟩)
    · exact .inl ⟨hw, .step hs hya h⟩

theorem path_congr {a b : NodeList} (h : a ≃ₙ b) (x z : String) :
    Path a a.roots x z ↔ Path b b.roots x z := by
  suffices ∀ {a b}, a ≃ₙ b → Path a a.roots x z → Path b b.roots x z from ⟨this h, this h.symm⟩
  intro a b h hp
  induction hp with
  | refl => exact Path.refl _
  | step hs ha _ ih =>
    exact Path.step ((succ_congr h _ _).mp hs) ⟨(h.ids _).mp ha.1, fun hr => ha.2 ((h.roots _).mpr hr)⟩ ih

/-- the invariant of the worklist, for any stack and seen list: the seen nodes act as further
    boundary -/
theorem reach_iff (nl : NodeList) (bnd stack seen : List String) (z : String) :
    z ∈ nl.reach bnd stack seen ↔
      z ∈ seen ∨ ∃ w ∈ stack, Allowed nl (seen ++ bnd) w ∧ Path nl (seen ++ bnd) w z := by
  fun_induction NodeList.reach nl bnd stack seen with
  | case1 seen => simp
  | case2 x stack seen hc ih =>
    have hx : ¬ Allowed nl (seen ++ bnd) x := fun ha => hc.elim (fun h => ha.2 (List.mem_append_left _ h))
      fun h => h.elim (fun h => ha.2 (List.mem_append_right _ h)) (· ha.1)
    simp only [ih, List.mem_cons, exists_eq_or_imp, hx, false_and, false_or]
  | case3 x stack seen hc ih =>
    have hx : Allowed nl (seen ++ bnd) x :=
      ⟨Classical.not_not.mp fun h => hc (.inr (.inr h)), fun h => hc ((List.mem_append.mp h).imp_right .inl)⟩
    rw [ih]
    constructor
    · rintro (h | ⟨w, hw, hwa, hp⟩)
      · -- `z` is the visited node `x` itself, or was seen before
        exact (List.mem_cons.mp h).elim (fun h => .inr ⟨z, h ▸ List.mem_cons_self, h ▸ hx, .refl _⟩) .inl
      · -- `w` is a successor of `x` (prefix the path with `x`) or on the old stack
        have hp := hp.mono (bnd' := seen ++ bnd) fun _ => List.mem_cons_of_mem _
        have hwa := hwa.mono (bnd' := seen ++ bnd) fun _ => List.mem_cons_of_mem _
        exact (List.mem_append.mp hw).elim (fun h => .inr ⟨x, List.mem_cons_self, hx, .step h hwa hp⟩)
          fun h => .inr ⟨w, List.mem_cons_of_mem _ h, hwa, hp⟩
    · rintro (h | ⟨w, hw, hwa, hp⟩)
      · exact .inl (List.mem_cons_of_mem _ h)
      · -- cut the path where it leaves `x` for the last time, if it meets `x` at all
        rcases hp.split x with ⟨hwx, h⟩ | rfl | ⟨y, hy, hya, h⟩
        · exact .inr ⟨w, List.mem_append_right _ ((List.mem_cons.mp hw).resolve_left hwx),
            ⟨hwa.1, by simp [hwx, hwa.2]⟩, h⟩
        · exact .inl List.mem_cons_self
        · exact .inr ⟨y, List.mem_append_left _ hy, hya, h⟩

/-- the start node itself may be a root: `Path` constrains only the nodes it enters -/
theorem connected_iff (nl : NodeList) (id z : String) :
    z ∈ nl.connected id ↔ Path nl nl.roots id z := by
  rw [NodeList.connected, reach_iff]
  constructor
  · rintro (h | ⟨w, hw, hwa, hp⟩)
    · rw [List.mem_singleton.mp h]; exact .refl _
    · exact .step hw (hwa.mono fun _ => List.mem_cons_of_mem _) (hp.mono fun _ => List.mem_cons_of_mem _)
  · exact fun hp => (hp.split id).elim (fun h => absurd rfl h.1) (.imp List.mem_singleton.mpr fun h => h)

theorem nodeGraph_sem {nl : NodeList} {id : String} {r : NodeList} (h : nl.nodeGraph id = some r) :
    Sem r (Path nl nl.roots id) (· = id) nl.HasEdge := by
  obtain ⟨hin, rfl⟩ := nodeGraph_some h
  refine Sem.edges_congr (E := fun s t d => nl.HasEdge s t d ∧ s ∈ nl.connected id)
    (Sem.clean (fun z => ?_) (fun _ => List.mem_singleton) (hasEdgeL_filter_src nl.edges (· ∈ nl.connected id)))
    -- a source among the result's nodes is connected, so the edge filter loses nothing
    fun s t d hs _ => and_iff_left ((connected_iff nl id s).mpr hs)
  exact (mem_nodesOf_ids nl _ z).trans
    ((and_congr_left' (connected_iff nl id z)).trans (and_iff_left_of_imp (·.mem_ids hin)))

theorem nodeSiblings_sem {nl : NodeList} {id : String} {r : NodeList} (h : nl.nodeSiblings id = some r)
    (hin : id ∈ nl.ids) :
    Sem r (fun z => z = id ∨ (∃ t, nl.HasEdge id t z) ∧ z ∈ nl.ids) (· = id)
      (fun s t d => nl.HasEdge s t d ∧ s = id) := by
  obtain rfl := (nodeSiblings_some h).2.1 hin
  refine Sem.clean (fun z => (mem_nodesOf_ids nl _ z).trans ?_) (fun _ => List.mem_singleton)
    (hasEdgeL_filter_src nl.edges (· = id))
  rw [List.mem_eraseDups, List.mem_cons, mem_flatMap_tos]
  exact ⟨fun h => h.1.imp_right (⟨·, h.2⟩),
    fun h => h.elim (fun e => ⟨.inl e, e ▸ hin⟩) fun h => ⟨.inr h.1, h.2⟩⟩

theorem nodeGraph_congr {a b : NodeList} (h : a ≃ₙ b) {id : String} {ra rb : NodeList}
    (ha : a.nodeGraph id = some ra) (hb : b.nodeGraph id = some rb) : ra ≃ₙ rb :=
  (nodeGraph_sem ha).equiv (nodeGraph_sem hb) (path_congr h id) (fun _ => .rfl) fun s t d _ _ => h.edges s t d

theorem nodeSiblings_congr {a b : NodeList} (h : a ≃ₙ b) {id : String} {ra rb : NodeList}
    (ha : a.nodeSiblings id = some ra) (hb : b.nodeSiblings id = some rb) (hin : id ∈ a.ids) : ra ≃ₙ rb :=
  (nodeSiblings_sem ha hin).equiv (nodeSiblings_sem hb ((h.ids id).mp hin))
    (fun z => or_congr_right (and_congr (exists_congr fun t => h.edges id t z) (h.ids z))) (fun _ => .rfl)
    fun s t d _ _ => and_congr_left' (h.edges s t d)

end Protobom
