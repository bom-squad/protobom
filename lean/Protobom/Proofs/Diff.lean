/- `Node.Diff`: soundness, completeness, count and reconstruction, helper by helper. -/
import Protobom.Proofs.Flat

namespace Protobom
open Gen

def Val.hasKind : Kind → Val → Prop
  | .str, .str _ | .strs, .strs _ | .enums, .enums _ | .imap, .imap m => True
  | .date, .date _ | .persons, .persons _ | .refs, .refs _ => True
  | _, _ => False

/-- the attribute equivalence of the property: sets for list-valued attributes (persons and
    references by flattened content), maps as maps, dates to the second -/
def attrEq : Kind → Val → Val → Prop
  | .str, .str a, .str b => a = b
  | .strs, .strs a, .strs b => ∀ x, x ∈ a ↔ x ∈ b
  | .enums, .enums a, .enums b => ∀ x, x ∈ a ↔ x ∈ b
  | .imap, .imap a, .imap b => ∀ k, a.lookup k = b.lookup k
  | .date, .date a, .date b => a.map (·.1) = b.map (·.1)
  | .persons, .persons a, .persons b => ∀ s, s ∈ a.map Person.flat ↔ s ∈ b.map Person.flat
  | .refs, .refs a, .refs b => ∀ s, s ∈ a.map ExtRef.flat ↔ s ∈ b.map ExtRef.flat
  | _, _, _ => False

def KeyUnique (m : List (Int × String)) : Prop := (m.map (·.1)).Nodup

/-- maps are key-unique (they model Go maps) -/
def Val.wellFormed : Val → Prop
  | .imap m => KeyUnique m
  | _ => True

/-- what the property asks of the triple `r` a diff helper returns for `a` and `b`: the count is 0 or 1,
    it is 0 exactly when `a` and `b` agree (`E`), and applying the reported change to `a` (`ap`) gives `b` back -/
structure DiffLaw {α} (E : α → α → Prop) (ap : α → α → α → α) (a b : α) (r : α × α × Nat) : Prop where
  le : r.2.2 ≤ 1
  zero : r.2.2 = 0 ↔ E a b
  apply : E (ap a r.1 r.2.1) b

theorem diffStr_law (a b : String) :
    DiffLaw Eq (fun o a r => if a ≠ "" then a else if r ≠ "" then "" else o) a b (diffStr a b) := by
  unfold diffStr; by_cases h : a = b <;> by_cases hb : b = "" <;> constructor <;> simp_all

theorem diffInt_law (a b : Int) :
    DiffLaw Eq (fun o a r => if a ≠ 0 then a else if r ≠ 0 then 0 else o) a b (diffInt a b) := by
  unfold diffInt; by_cases h : a = b <;> by_cases hb : b = 0 <;> constructor <;> simp_all

/-- `if c then 0 else 1` is the count the three collection helpers report (`c`: nothing was added or removed) -/
theorem count_le (c : Prop) [Decidable c] : (if c then 0 else 1) ≤ 1 := by split <;> simp

theorem count_zero (c : Prop) [Decidable c] : (if c then 0 else 1) = 0 ↔ c := by split <;> simp [*]

theorem filter_isEmpty_iff {α} (p : α → Bool) (l : List α) : (l.filter p).isEmpty = true ↔ ∀ x ∈ l, p x = false := by
  simp [List.filter_eq_nil_iff]

theorem diffSliceL_eq {α} [DecidableEq α] (a b : List α) :
    diffSliceL a b = ((b.filter (· ∉ a)), (a.filter (· ∉ b)),
      if (b.filter (· ∉ a)).isEmpty ∧ (a.filter (· ∉ b)).isEmpty then 0 else 1) := rfl

theorem diffSliceL_law {α} [DecidableEq α] (a b : List α) :
    DiffLaw (fun a b => ∀ x, x ∈ a ↔ x ∈ b) (fun o a r => o.filter (· ∉ r) ++ a) a b (diffSliceL a b) where
  le := count_le _
  zero := by
    refine (count_zero _).trans ?_
    simp only [filter_isEmpty_iff, decide_eq_false_iff_not, Decidable.not_not]
    exact ⟨fun ⟨h1, h2⟩ x => ⟨h2 x, h1 x⟩, fun h => ⟨fun x => (h x).mpr, fun x => (h x).mp⟩⟩
  apply := fun x => by
    simp only [diffSliceL, List.mem_append, List.mem_filter, decide_eq_true_eq]
    by_cases hin : x ∈ a <;> by_cases hb : x ∈ b <;> simp [hin, hb]

/-- `diffList` is `diffSlice` on the flattened strings -/
theorem diffListBy_map {α} (flat : α → String) (a b : List α) :
    (diffListBy flat a b).1.map flat = (diffSliceL (a.map flat) (b.map flat)).1 ∧
    (diffListBy flat a b).2.1.map flat = (diffSliceL (a.map flat) (b.map flat)).2.1 ∧
    (diffListBy flat a b).2.2 = (diffSliceL (a.map flat) (b.map flat)).2.2 := by
  simp only [diffListBy, diffSliceL, List.filter_map, List.isEmpty_map, Function.comp_def, and_self]

theorem diffListBy_law {α} (flat : α → String) (a b : List α) :
    DiffLaw (fun a b => ∀ s, s ∈ a.map flat ↔ s ∈ b.map flat)
      (fun o a r => o.filter (fun x => flat x ∉ r.map flat) ++ a) a b (diffListBy flat a b) := by
  have l := diffSliceL_law (a.map flat) (b.map flat)
  obtain ⟨e1, e2, e3⟩ := diffListBy_map flat a b
  refine ⟨e3 ▸ l.le, e3 ▸ l.zero, ?_⟩
  have := l.apply
  rw [← e1, ← e2] at this
  simpa only [List.map_append, List.filter_map, Function.comp_def] using this

theorem diffDate_law (a b : Option (Int × Int)) :
    DiffLaw (fun a b => a.map (·.1) = b.map (·.1))
      (fun o a r => if a.isSome then a else if r.isSome then none else o) a b (diffDate a b) := by
  unfold diffDate
  rcases a with _ | x <;> rcases b with _ | y
  case some.some => by_cases h : x.1 = y.1 <;> constructor <;> simp [h]
  all_goals constructor <;> simp

theorem lookup_some_of_mem_unique (m : List (Int × String)) (h : KeyUnique m) (kv : Int × String) (hm : kv ∈ m) :
    m.lookup kv.1 = some kv.2 := lookup_of_mem h hm

theorem diffMapL_law (a b : List (Int × String)) (ha : KeyUnique a) (hb : KeyUnique b) :
    DiffLaw (fun a b => ∀ k, a.lookup k = b.lookup k)
      (fun o a r => a ++ o.filter (fun kv => (a.lookup kv.1).isNone ∧ (r.lookup kv.1).isNone)) a b (diffMapL a b) where
  le := count_le _
  zero := by
    refine (count_zero _).trans ?_
    simp only [filter_isEmpty_iff, decide_eq_false_iff_not, Decidable.not_not]
    constructor
    · rintro ⟨h1, h2⟩ k
      cases hbk : b.lookup k with
      | some v => exact h1 _ (mem_of_lookup hbk)
      | none =>
        cases hak : a.lookup k with
        | none => rfl
        | some w => simpa [hbk] using h2 _ (mem_of_lookup hak)
    · intro h
      exact ⟨fun kv hkv => by rw [h, lookup_of_mem hb hkv],
             fun kv hkv => by simp [← h, lookup_of_mem ha hkv]⟩
  -- after `lookup_filter` both sides speak of `a.lookup k` and `b.lookup k` only
  apply := fun k => by
    simp only [diffMapL, List.lookup_append, lookup_filter ha, lookup_filter hb]
    rcases Option.eq_none_or_eq_some (a.lookup k) with ea | ⟨v, ea⟩ <;>
      rcases Option.eq_none_or_eq_some (b.lookup k) with eb | ⟨w, eb⟩ <;> simp [ea, eb, Option.filter]
    by_cases h : v = w <;> simp [h]

theorem diffVal_law (k : Kind) (a b : Val) (ha : a.hasKind k) (hb : b.hasKind k)
    (wa : a.wellFormed) (wb : b.wellFormed) : DiffLaw (attrEq k) (applyVal k) a b (diffVal k a b) := by
  cases k <;> cases a <;> (try exact ha.elim) <;> cases b <;> try exact hb.elim
  -- the helper's law is about the payloads, this one about the `Val`s around them: the fields agree by unfolding
  · exact have l := diffStr_law _ _; ⟨l.le, l.zero, l.apply⟩
  · exact have l := diffSliceL_law _ _; ⟨l.le, l.zero, l.apply⟩
  · exact have l := diffSliceL_law _ _; ⟨l.le, l.zero, l.apply⟩
  · exact have l := diffMapL_law _ _ wa wb; ⟨l.le, l.zero, l.apply⟩
  · exact have l := diffDate_law _ _; ⟨l.le, l.zero, l.apply⟩
  · exact have l := diffListBy_law Person.flat _ _; ⟨l.le, l.zero, l.apply⟩
  · exact have l := diffListBy_law ExtRef.flat _ _; ⟨l.le, l.zero, l.apply⟩

def AttrsTyped : List (String × Kind) → List Val → Prop
  | [], [] => True
  | (_, k) :: fs, v :: vs => v.hasKind k ∧ v.wellFormed ∧ AttrsTyped fs vs
  | _, _ => False

def Node.typed (n : Node) : Prop := AttrsTyped Schema.nodeAttrs n.attrs

def AttrsEq : List (String × Kind) → List Val → List Val → Prop
  | [], [], [] => True
  | (_, k) :: fs, a :: as, b :: bs => attrEq k a b ∧ AttrsEq fs as bs
  | _, _, _ => False

def CountsSpec : List (String × Kind) → List Val → List Val → List Nat → Prop
  | [], [], [], [] => True
  | (_, k) :: fs, a :: as, b :: bs, c :: cs => (c ≤ 1 ∧ (c = 0 ↔ attrEq k a b)) ∧ CountsSpec fs as bs cs
  | _, _, _, _ => False

theorem diffAttrs_law : ∀ (fs : List (String × Kind)) (as bs : List Val),
    (∀ fk ∈ fs, diffHandles fk.1 fk.2 = true) → AttrsTyped fs as → AttrsTyped fs bs →
    CountsSpec fs as bs ((diffAttrs fs as bs).map (·.2.2)) ∧
    AttrsEq fs (applyAttrs fs as ((diffAttrs fs as bs).map (·.1)) ((diffAttrs fs as bs).map (·.2.1))) bs
  | [], [], [], _, _, _ => ⟨trivial, trivial⟩
  | (f, k) :: fs, a :: as, b :: bs, hcov, ha, hb => by
    have l := diffVal_law k a b ha.1 hb.1 ha.2.1 hb.2.1
    have ih := diffAttrs_law fs as bs (fun fk h => hcov fk (List.mem_cons_of_mem _ h)) ha.2.2 hb.2.2
    rw [diffAttrs, if_pos (hcov (f, k) List.mem_cons_self)]
    exact ⟨⟨⟨l.le, l.zero⟩, ih.1⟩, l.apply, ih.2⟩
  | [], _ :: _, _, _, ha, _ | _ :: _, [], _, _, ha, _ => ha.elim
  | [], [], _ :: _, _, _, hb | _ :: _, _ :: _, [], _, _, hb => hb.elim

theorem counts_sum_zero : ∀ (fs : List (String × Kind)) (as bs : List Val) (cs : List Nat),
    CountsSpec fs as bs cs → (cs.sum = 0 ↔ AttrsEq fs as bs)
  | [], [], [], [], _ => by simp [AttrsEq]
  | (_, k) :: fs, a :: as, b :: bs, c :: cs, h => by
    simp only [List.sum_cons, AttrsEq, Nat.add_eq_zero_iff, h.1.2, counts_sum_zero fs as bs cs h.2]
  | [], [], [], _ :: _, h | [], [], _ :: _, _, h | [], _ :: _, _, _, h => h.elim
  | _ :: _, [], _, _, h | _ :: _, _ :: _, [], _, h | _ :: _, _ :: _, _ :: _, [], h => h.elim

theorem attrEq_refl (k : Kind) (a : Val) (h : a.hasKind k) : attrEq k a a := by
  cases k <;> cases a <;> (try exact h.elim) <;> simp [attrEq]

theorem attrsEq_refl_of_typed : ∀ (fs : List (String × Kind)) (as : List Val), AttrsTyped fs as → AttrsEq fs as as
  | [], [], _ => trivial
  | (_, k) :: fs, a :: as, h => ⟨attrEq_refl k a h.1, attrsEq_refl_of_typed fs as h.2.2⟩
  | [], _ :: _, h | _ :: _, [], h => h.elim

end Protobom
