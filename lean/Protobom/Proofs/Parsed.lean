/- What every parsed document looks like, with no hypothesis on the input (Props/C05.lean rests on this): the
   generated identifier `autoId` (non-empty, injective, made of safe characters); the CycloneDX parser's counter,
   well-formedness and where each identifier comes from (`Parsed`, `unserCDX_ids`); the identifiers, roots and
   edges the SPDX parser returns (`unserSPDX_some`). -/
import Protobom.Proofs.Cdx
import Protobom.Proofs.WF
import Protobom.Proofs.Ident

namespace Protobom
open Gen Cdx

theorem toString_toList (n : Nat) : (toString n).toList = Nat.toDigits 10 n := by
  simp [toString, Nat.repr]

theorem pad9_toList (n : Nat) :
    (Str.pad9 n).toList = List.replicate (9 - (toString n).length) '0' ++ Nat.toDigits 10 n := by
  unfold Str.pad9
  simp only [String.toList_append, toString_toList, mk_toList]

theorem pad9_val (n : Nat) : Nat.ofDigitChars 10 (Str.pad9 n).toList 0 = n := by
  rw [pad9_toList, Nat.ofDigitChars_append, Nat.ofDigitChars_replicate_zero, Nat.mul_zero]
  exact Nat.ofDigitChars_ten_toDigits

theorem pad9_inj (a b : Nat) (h : Str.pad9 a = Str.pad9 b) : a = b := by
  rw [← pad9_val a, ← pad9_val b, h]

theorem pad9_safe (n : Nat) : ∀ c ∈ (Str.pad9 n).toList, idSafe c = true := by
  intro c hc
  rw [pad9_toList, List.mem_append] at hc
  rcases hc with h | h
  · rw [List.mem_replicate] at h; rw [h.2]; decide
  · have := Nat.isDigit_of_mem_toDigits (by decide) (by decide) h
    simp [idSafe, Char.isAlphanum, this]

theorem autoId_safe (n : Nat) : ∀ c ∈ (autoId n).toList, idSafe c = true := by
  intro c hc
  unfold autoId at hc
  rw [String.toList_append, List.mem_append] at hc
  rcases hc with h | h
  · revert c; decide
  · exact pad9_safe n c h

theorem autoId_ne_empty (n : Nat) : autoId n ≠ "" := fun h => by
  simp only [autoId, String.append_eq_empty_iff, String.reduceEq, false_and] at h

theorem autoId_inj (a b : Nat) (h : autoId a = autoId b) : a = b := by
  unfold autoId at h
  have := congrArg String.toList h
  rw [String.toList_append, String.toList_append] at this
  have h2 := List.append_cancel_left this
  apply pad9_inj
  exact String.toList_inj.mp h2

/-- the identifier the parser gives the component that is visited with counter value `cc` -/
def assignedId : Component → Nat → String
  | .mk r _ _ _ _ _ _ _ _ _ _ _ _, cc => if r = "" then autoId cc else r

theorem assignedId_eq (c : Component) (cc : Nat) :
    assignedId c cc = if c.bomRef = "" then autoId cc else c.bomRef := by cases c; rfl

theorem componentToNode_assigned (c : Component) (cc : Nat) : (componentToNode c cc).id = assignedId c cc := by
  cases c; rfl

theorem assignedId_ne_empty (c : Component) (cc : Nat) : assignedId c cc ≠ "" := by
  rw [assignedId_eq]
  split
  · exact autoId_ne_empty cc
  · assumption

/-! ### the counter: one tick per component, in document order -/

mutual
  def Cdx.Component.size : Component → Nat
    | .mk _ _ _ _ _ _ _ _ _ _ _ _ ks => 1 + sizeL ks
  def sizeL : List Component → Nat
    | [] => 0
    | c :: cs => c.size + sizeL cs
end

theorem size_eq (c : Component) : c.size = 1 + sizeL c.kids := by cases c; rfl

/-- `x` is an identifier assigned to a component visited while the counter goes from `lo` to `hi`:
    its own reference (one of `refs`), or the generated identifier for its position in document order -/
def IdOf (x : String) (lo hi : Nat) (refs : List String) : Prop :=
  (x ∈ refs ∧ x ≠ "") ∨ ∃ k, lo < k ∧ k ≤ hi ∧ x = autoId k

theorem IdOf.mono {x : String} {lo hi lo' hi' : Nat} {refs refs' : List String}
    (h : IdOf x lo hi refs) (h1 : lo' ≤ lo) (h2 : hi ≤ hi') (h3 : ∀ y ∈ refs, y ∈ refs') : IdOf x lo' hi' refs' := by
  rcases h with ⟨a, b⟩ | ⟨k, a, b, c⟩
  · exact Or.inl ⟨h3 x a, b⟩
  · exact Or.inr ⟨k, Nat.lt_of_le_of_lt h1 a, Nat.le_trans b h2, c⟩

theorem IdOf.ne_empty {x : String} {lo hi : Nat} {refs : List String} (h : IdOf x lo hi refs) : x ≠ "" := by
  rcases h with ⟨_, b⟩ | ⟨k, _, _, c⟩
  · exact b
  · rw [c]; exact autoId_ne_empty k

theorem assignedId_idOf (c : Component) (cc : Nat) : IdOf (assignedId c (cc + 1)) cc (cc + 1) [c.bomRef] := by
  rw [assignedId_eq]
  split
  · exact Or.inr ⟨cc + 1, Nat.lt_succ_self cc, Nat.le_refl _, rfl⟩
  · exact Or.inl ⟨List.mem_singleton_self _, ‹_›⟩

/-- The parser puts the sub-list of a component into the list it has by `RelateNodeListAtID`, keeping
    the list as it is where that fails, or by `Add`. What follows needs this much of either, where
    it succeeds: -/
def Grows (σ : NodeList → NodeList → Option NodeList) : Prop :=
  ∀ a b r, σ a b = some r → (a.WF → b.WF → r.WF) ∧ ∀ x ∈ r.ids, x ∈ a.ids ∨ x ∈ b.ids

theorem Grows.getD {σ : NodeList → NodeList → Option NodeList} (h : Grows σ) (a b : NodeList) :
    (a.WF → b.WF → ((σ a b).getD a).WF) ∧ ∀ x ∈ ((σ a b).getD a).ids, x ∈ a.ids ∨ x ∈ b.ids := by
  cases hr : σ a b with
  | none => exact ⟨fun ha _ => ha, fun _ => Or.inl⟩
  | some r => exact h a b r hr

theorem grows_graft (anchor : String) : Grows (·.relateNodeListAtID · anchor 5) := fun a b r h =>
  ⟨fun ha hb => relateNodeListAtID_wf a b anchor 5 r ha hb h, fun x => (relateNodeListAtID_ids a b anchor 5 r h x).mp⟩

theorem grows_top : Grows topOp := fun a b r h => by
  unfold topOp at h
  split at h
  · cases h; exact ⟨add_wf a b, fun x => ((add_sem a b).ids x).mp⟩
  · exact grows_graft _ a b r h

theorem single_wf (n : Node) : ({ nodes := [n], edges := [], roots := [n.id] } : NodeList).WF :=
  ⟨List.pairwise_singleton _ _, fun _ h => (nomatch h), fun _ h => (nomatch h), fun _ h => h⟩

/-- what the parser returns for the subtree `c` visited from counter `cc` -/
structure Parsed (c : Component) (cc : Nat) : Prop where
  counter : (compToNL c cc).2 = cc + c.size
  wf : (compToNL c cc).1.WF
  ids : ∀ x ∈ (compToNL c cc).1.ids, IdOf x cc (cc + c.size) c.refs

/-- … and for the components `ks` in turn, from the state `st` to `r` -/
structure ParsedL (ks : List Component) (st r : NodeList × Nat) : Prop where
  counter : r.2 = st.2 + sizeL ks
  wf : st.1.WF → r.1.WF
  ids : ∀ x ∈ r.1.ids, x ∈ st.1.ids ∨ IdOf x st.2 (st.2 + sizeL ks) (refsL ks)

theorem foldl_parsed {σ : NodeList → NodeList → Option NodeList} (hσ : Grows σ) (ks : List Component)
    (h : ∀ k ∈ ks, ∀ cc, Parsed k cc) (st : NodeList × Nat) : ParsedL ks st (ks.foldl (parseStep σ) st) := by
  induction ks generalizing st with
  | nil => exact ⟨rfl, id, fun _ hx => Or.inl hx⟩
  | cons k ks ih =>
    have hk := h k List.mem_cons_self st.2
    rw [List.foldl_cons, parseStep, hk.counter]
    obtain ⟨c1, w1, i1⟩ := ih (fun k' hk' => h k' (List.mem_cons_of_mem _ hk')) (_, st.2 + k.size)
    obtain ⟨wσ, iσ⟩ := hσ.getD st.1 (compToNL k st.2).1
    refine ⟨by rw [c1, sizeL]; exact Nat.add_assoc .., fun hw => w1 (wσ hw hk.wf), fun x hx => ?_⟩
    rw [sizeL, refsL, ← Nat.add_assoc]
    rcases i1 x hx with h1 | h1
    · exact (iσ x h1).imp_right fun h2 =>
        (hk.ids x h2).mono (Nat.le_refl _) (Nat.le_add_right ..) fun _ => List.mem_append_left _
    · exact Or.inr (h1.mono (Nat.le_add_right ..) (Nat.le_refl _) fun _ => List.mem_append_right _)

theorem compToNL_parsed : ∀ (c : Component) (cc : Nat), Parsed c cc :=
  Component.ind fun c ih cc => by
    have h : ParsedL c.kids _ (compToNL c cc) :=
      compToNL_eq c cc ▸ compsToNL_eq_foldl .. ▸ foldl_parsed (grows_graft _) c.kids ih _
    refine ⟨by rw [h.counter, size_eq]; exact Nat.add_assoc .., h.wf (single_wf _), fun x hx => ?_⟩
    rw [size_eq, refs_eq_refsL, ← Nat.add_assoc]
    rcases h.ids x hx with h1 | h1
    · rw [(List.mem_singleton.mp h1).trans (componentToNode_assigned c _)]
      exact (assignedId_idOf c cc).mono (Nat.le_refl _) (Nat.le_add_right ..) fun y hy =>
        List.mem_singleton.mp hy ▸ List.mem_cons_self
    · exact h1.mono (Nat.le_succ _) (Nat.le_refl _) fun _ => List.mem_cons_of_mem _

theorem compsToNL_parsed (ks : List Component) (cc : Nat) (acc : NodeList) (anchor : String) :
    ParsedL ks (acc, cc) (compsToNL ks cc acc anchor) :=
  compsToNL_eq_foldl anchor ks cc acc ▸ foldl_parsed (grows_graft anchor) ks (fun k _ => compToNL_parsed k) _

theorem topFold_parsed (tops : List Component) (st : NodeList × Nat) : ParsedL tops st (topFold tops st) :=
  topFold_eq_foldl tops st ▸ foldl_parsed grows_top tops (fun k _ => compToNL_parsed k) st

theorem compsToNL_counter : ∀ (ks : List Component) (cc : Nat) (acc : NodeList) (anchor : String),
      (compsToNL ks cc acc anchor).2 = cc + sizeL ks :=
  fun ks cc acc anchor => (compsToNL_parsed ks cc acc anchor).counter

theorem compsToNL_wf : ∀ (ks : List Component) (cc : Nat) (acc : NodeList) (anchor : String), acc.WF →
      (compsToNL ks cc acc anchor).1.WF :=
  fun ks cc acc anchor => (compsToNL_parsed ks cc acc anchor).wf

theorem compsToNL_ids : ∀ (ks : List Component) (cc : Nat) (acc : NodeList) (anchor : String) (x : String),
      x ∈ (compsToNL ks cc acc anchor).1.ids → x ∈ acc.ids ∨ IdOf x cc (cc + sizeL ks) (refsL ks) :=
  fun ks cc acc anchor => (compsToNL_parsed ks cc acc anchor).ids

theorem topFold_counter (tops : List Component) (st : NodeList × Nat) :
    (topFold tops st).2 = st.2 + sizeL tops :=
  (topFold_parsed tops st).counter

def bomRefs (b : Bom) : List String :=
  (match b.metaComponent with | some c => c.refs | none => []) ++ refsL b.components

def bomSize (b : Bom) : Nat :=
  (match b.metaComponent with | some c => c.size | none => 0) + sizeL b.components

theorem bomRefs_eq (b : Bom) : bomRefs b = refsL (b.metaComponent.toList ++ b.components) := by
  unfold bomRefs; cases b.metaComponent <;> rfl

theorem bomSize_eq (b : Bom) : bomSize b = sizeL (b.metaComponent.toList ++ b.components) := by
  unfold bomSize; cases b.metaComponent
  · exact Nat.zero_add _
  · rfl

theorem unserCDX_ids (b : Bom) : ∃ nl, (unserCDX b).nodeList = some nl ∧
    ∀ x ∈ nl.ids, IdOf x 0 (bomSize b) (bomRefs b) := by
  refine ⟨_, unserCDX_nodeList b, fun x hx => ?_⟩
  rw [bomSize_eq, bomRefs_eq, ← Nat.zero_add (sizeL _)]
  exact ((topFold_parsed _ _).ids x hx).resolve_left List.not_mem_nil

/-! ### SPDX: identifiers and endpoints are transferred verbatim -/

/-- what `SPDX23.Unserialize` returns: the identifiers of packages and files as they stand; a root
    for a relationship `DOCUMENT DESCRIBES b`, an edge for any other, of those with both ends given -/
theorem unserSPDX_some {d : Spdx.Doc} {nl : NodeList} (h : (Spdx.unserSPDX d).nodeList = some nl) :
    nl.ids = d.packages.map (·.id) ++ d.files.map (·.id) ∧
    (∀ x ∈ nl.roots, ∃ r ∈ d.rels, r.a ≠ "" ∧ r.b ≠ "" ∧ x = r.b) ∧
    ∀ e ∈ nl.edges, ∃ r ∈ d.rels, r.a ≠ "" ∧ r.b ≠ "" ∧
      ¬(r.a = "DOCUMENT" ∧ Spdx.equalFoldAscii r.rel "DESCRIBES" = true) ∧ e.src = r.a ∧ e.tos = [r.b] := by
  cases h
  refine ⟨?_, fun x hx => ?_, fun e he => ?_⟩
  · simp only [NodeList.ids, List.map_append, List.map_map]; rfl
  · obtain ⟨r, hr, rfl⟩ := List.mem_map.mp hx
    obtain ⟨hr, hab⟩ := List.mem_filter.mp (List.mem_filter.mp hr).1
    exact ⟨r, hr, (of_decide_eq_true hab).1, (of_decide_eq_true hab).2, rfl⟩
  · obtain ⟨r, hr, rfl⟩ := List.mem_map.mp he
    obtain ⟨hr, hnr⟩ := List.mem_filter.mp hr
    obtain ⟨hr, hab⟩ := List.mem_filter.mp hr
    exact ⟨r, hr, (of_decide_eq_true hab).1, (of_decide_eq_true hab).2,
      of_decide_eq_false (Bool.not_eq_true' _ ▸ hnr), rfl, rfl⟩

end Protobom
