/- What one write-then-read does to the identity attributes of a package node (the ones C03 names): `rtPkg`
   (SPDX 2.3) keeps name and version; `rtNode v` (CycloneDX 1.`v`) keeps the name, the version up to `0.0.0`,
   a key-unique hash map over CycloneDX algorithms in key order and, of the identifiers, the package URL and one
   CPE. `hashes_then` chains two passes over the hash map; Props/C03.lean puts the passes together in both orders. -/
import Protobom.Proofs.SpdxAttrs
import Protobom.Proofs.CdxAttrs

namespace Protobom

theorem key_of_lookup_some {m : List (Int × String)} {k : Int} {v : String} (h : m.lookup k = some v) :
    k ∈ m.map (·.1) :=
  key_of_lookup h

end Protobom

namespace Protobom.Cross
open Protobom Protobom.Spdx Protobom.Cdx Gen

theorem rtPkg_typ (n : Node) : (rtPkg n).typ = 0 := rfl

theorem rtPkg_name (n : Node) : Node.str (rtPkg n) "Name" = Node.str n "Name" :=
  Node.str_of_attr (rtPkg_attr_at n 0 rfl)

theorem rtPkg_version (n : Node) : Node.str (rtPkg n) "Version" = Node.str n "Version" :=
  Node.str_of_attr (rtPkg_attr_at n 1 rfl)

theorem rtNode_name (v : Nat) (n : Node) : Node.str (rtNode v n) "Name" = Node.str n "Name" :=
  Node.str_of_attr (rtNode_attrs v n).1

/-- `0.0.0` is what cyclonedx-go writes for a missing version below 1.4 -/
theorem rtNode_version (v : Nat) (n : Node) :
    Node.str (rtNode v n) "Version" =
      (if v < 4 ∧ Node.str n "Version" = "" then "0.0.0" else Node.str n "Version") :=
  Node.str_of_attr (rtNode_attrs v n).2.1

theorem rtNode_hashes (v : Nat) (n : Node) (hc : ∀ kv ∈ n.hashes, kv.1 ∈ cdxHashes)
    (hnd : (n.hashes.map (·.1)).Nodup) : (rtNode v n).hashes = sortedByKey n.hashes :=
  have ⟨_, _, _, _, _, _, _, _, hHs⟩ := rtNode_attrs v n
  (Node.mapAttr_of_attr hHs).trans (compHashes_hashesOut n.hashes hc hnd)

/-- CycloneDX has one member for the package URL and one for the CPE (2.3 before 2.2) -/
theorem rtNode_identifiers (v : Nat) (n : Node) :
    (rtNode v n).identifiers = compIds ((n.identifiers.lookup 1).getD "")
      ((n.identifiers.lookup 3).getD ((n.identifiers.lookup 2).getD "")) :=
  have ⟨_, _, _, _, _, _, _, hIds, _⟩ := rtNode_attrs v n
  Node.mapAttr_of_attr hIds

theorem hashes_then {f g : Node → Node} {K K' : List Int} (n : Node)
    (hf : (∀ kv ∈ n.hashes, kv.1 ∈ K) → (n.hashes.map (·.1)).Nodup → (f n).hashes = sortedByKey n.hashes)
    (hg : (∀ kv ∈ (f n).hashes, kv.1 ∈ K') → ((f n).hashes.map (·.1)).Nodup → (g (f n)).hashes = sortedByKey (f n).hashes)
    (hk : ∀ kv ∈ n.hashes, kv.1 ∈ K) (hk' : ∀ kv ∈ n.hashes, kv.1 ∈ K') (hnd : (n.hashes.map (·.1)).Nodup) :
    (g (f n)).hashes = sortedByKey n.hashes := by
  have h1 := hf hk hnd
  rw [hg (h1 ▸ sortedByKey_in _ _ hk') (h1 ▸ sortedByKey_keys_nodup _ hnd), h1]
  exact sortedByKey_idem n.hashes hnd

end Protobom.Cross
