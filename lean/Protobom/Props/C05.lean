/-
  C05 — Parsed graphs are well-formed, deterministic and layout-independent.
  Property theorems about the parser models (`Model/Cdx.lean`, `Model/Spdx.lean`, `Model/Parse.lean`)
  and the identifier generator (`Model/Ident.lean`).
-/
import Protobom.Proofs.Parsed
import Protobom.Proofs.Ident
import Protobom.Model.Parse

namespace Protobom.C05
open Protobom Gen

/-! ### CycloneDX: closure and identifiers, for every input -/

/-- every parsed CycloneDX document is a closed graph: identifiers pairwise distinct, every edge
    endpoint and every root element names a parsed node — for arbitrary nesting, duplicate or
    missing references, with or without a metadata component -/
theorem cdx_closed (b : Cdx.Bom) : ∃ nl, (Cdx.unserCDX b).nodeList = some nl ∧ nl.WF :=
  ⟨_, Cdx.unserCDX_nodeList b, (topFold_parsed _ _).wf empty_wf_normal.1⟩

/-- identifiers are non-empty; each is a (non-empty) reference of the input or the generated
    identifier `protobom-auto--<9 digits>` of a position between 1 and the number of components -/
theorem cdx_ids (b : Cdx.Bom) : ∃ nl, (Cdx.unserCDX b).nodeList = some nl ∧
    ∀ x ∈ nl.ids, x ≠ "" ∧ ((x ∈ bomRefs b) ∨ ∃ k, 0 < k ∧ k ≤ bomSize b ∧ x = Cdx.autoId k) := by
  obtain ⟨nl, h1, h2⟩ := unserCDX_ids b
  exact ⟨nl, h1, fun x hx => ⟨(h2 x hx).ne_empty, Or.imp_left And.left (h2 x hx)⟩⟩

/-- "as unique as the input's", for an input whose references are pairwise distinct and non-empty:
    the parsed identifiers are exactly the references, in document order, with the metadata
    component as the sole root -/
theorem cdx_ids_exact (b : Cdx.Bom) (rootC : Cdx.Component) (hm : b.metaComponent = some rootC)
    (hne : ∀ x ∈ rootC.refs ++ Cdx.refsL b.components, x ≠ "")
    (hnd : (rootC.refs ++ Cdx.refsL b.components).Nodup) :
    ∃ nl, (Cdx.unserCDX b).nodeList = some nl ∧ nl.ids = rootC.refs ++ Cdx.refsL b.components ∧
      nl.roots = [rootC.bomRef] := by
  obtain ⟨nl, h1, _, h2, h3, _⟩ := Cdx.unserCDX_full b rootC hm hne hnd
  exact ⟨nl, h1, h2, h3⟩

theorem generated_unique (j k : Nat) (h : Cdx.autoId j = Cdx.autoId k) : j = k := autoId_inj j k h

theorem generated_safe (k : Nat) : ∀ c ∈ (Cdx.autoId k).toList, idSafe c = true := autoId_safe k

/-- "reproducible": the identifier of a reference-less component depends only on its position in
    document order (one counter tick per component, nested components included) -/
theorem generated_reproducible (c : Cdx.Component) (cc : Nat) :
    (Cdx.compToNL c cc).2 = cc + c.size ∧
    (c.bomRef = "" → (Cdx.componentToNode c (cc + 1)).id = Cdx.autoId (cc + 1)) :=
  ⟨(compToNL_parsed c cc).counter, fun h => by rw [componentToNode_assigned, assignedId_eq, if_pos h]⟩

/-! ### SPDX: verbatim transfer -/

/-- element identifiers are transferred verbatim and with their multiplicity: the parsed
    identifiers are as unique as the input's -/
theorem spdx_ids (d : Spdx.Doc) : ∃ nl, (Spdx.unserSPDX d).nodeList = some nl ∧
    nl.ids = d.packages.map (·.id) ++ d.files.map (·.id) := ⟨_, rfl, (unserSPDX_some rfl).1⟩

/-- the input's own references resolve: every relationship that is kept names elements of the document -/
def SpdxRefsResolve (d : Spdx.Doc) : Prop :=
  let ids := d.packages.map (·.id) ++ d.files.map (·.id)
  ∀ r ∈ d.rels, r.a ≠ "" → r.b ≠ "" → r.b ∈ ids ∧ (r.a = "DOCUMENT" ∨ r.a ∈ ids)

/-- if they do, and (`hdoc`) every relationship from `DOCUMENT` is a DESCRIBES unless an element is
    itself called `DOCUMENT`, then every root element and every edge endpoint names a parsed node -/
theorem spdx_closed (d : Spdx.Doc) (h : SpdxRefsResolve d)
    (hdoc : ∀ r ∈ d.rels, r.a = "DOCUMENT" → Spdx.equalFoldAscii r.rel "DESCRIBES" = true ∨
      "DOCUMENT" ∈ d.packages.map (·.id) ++ d.files.map (·.id)) :
    ∃ nl, (Spdx.unserSPDX d).nodeList = some nl ∧
      (∀ x ∈ nl.roots, x ∈ nl.ids) ∧ (∀ e ∈ nl.edges, e.src ∈ nl.ids ∧ ∀ t ∈ e.tos, t ∈ nl.ids) := by
  obtain ⟨hids, hroots, hedges⟩ := unserSPDX_some (d := d) rfl
  refine ⟨_, rfl, fun x hx => ?_, fun e he => ?_⟩ <;> rw [hids]
  · obtain ⟨r, hr, ha, hb, rfl⟩ := hroots x hx
    exact (h r hr ha hb).1
  · obtain ⟨r, hr, ha, hb, hnr, hs, ht⟩ := hedges e he
    obtain ⟨hb, ha⟩ := h r hr ha hb
    rw [hs, ht]
    refine ⟨ha.elim (fun hd => ?_) id, fun t ht => List.mem_singleton.mp ht ▸ hb⟩
    -- a kept relationship from `DOCUMENT` that became an edge is not a DESCRIBES
    exact hd ▸ (hdoc r hr hd).resolve_left fun he => hnr ⟨hd, he⟩

/-! ### determinism and the format statement -/

/-- when the top-level declaration decodes, the rest of the detection input (`lines`, the layout of
    the bytes) does not matter: the result is a function of the declaration, the explicit format and
    the two third-party views. "Parsing the same bytes twice" needs no theorem (`parse` is a
    function); "any re-encoding of the same JSON value" needs, beyond this, that the decoders are
    layout-independent, which is not proved: stream `parse` checks it on every document in four
    layouts. -/
theorem parse_deterministic (i : Sniff.Input) (e : Option Sniff.Format) (c : Parse.Decoded Cdx.Bom)
    (s : Parse.Decoded Spdx.Doc) (ls : List String) (d : Sniff.Decl) (hd : i.decl = some d) :
    Parse.parse i e c s = Parse.parse ⟨some d, ls⟩ e c s := by
  unfold Parse.parse
  have : (Sniff.sniffReader i).1 = (Sniff.sniffReader ⟨some d, ls⟩).1 := by
    simp only [Sniff.sniffReader, hd]
  rw [this]

/-- parsing with auto-detection equals parsing with the detected format stated explicitly -/
theorem parse_auto_eq_explicit (i : Sniff.Input) (f : Sniff.Format) (hf : f ≠ "")
    (hs : (Sniff.sniffReader i).1 = .ok f) (c : Parse.Decoded Cdx.Bom) (s : Parse.Decoded Spdx.Doc) :
    Parse.parse i none c s = Parse.parse i (some f) c s := by
  unfold Parse.parse
  simp only [if_neg hf, hs]

/-! ### the public identifier generator -/

theorem newId_nonempty (seeds : List Ident.Bytes) (uuid : List Char) :
    Ident.newNodeIdentifier seeds uuid ≠ [] :=
  Ident.finish_ne_nil _ uuid (Ident.inv_fold seeds {} Ident.inv_init)

theorem newId_safe (seeds : List Ident.Bytes) (uuid : List Char) (hu : ∀ c ∈ uuid, idSafe c = true) :
    ∀ c ∈ Ident.newNodeIdentifier seeds uuid, idSafe c = true :=
  Ident.finish_safe _ uuid (Ident.inv_fold seeds {} Ident.inv_init) hu

/-- `uuid` is the random fallback: it is not used when a usable seed is given -/
theorem newId_deterministic (seeds : List Ident.Bytes) (u1 u2 : List Char) (h : Ident.usable seeds = true) :
    Ident.newNodeIdentifier seeds u1 = Ident.newNodeIdentifier seeds u2 := by
  have hv : (List.foldl Ident.step {} seeds).valid ≠ [] := of_decide_eq_true h
  unfold Ident.newNodeIdentifier Ident.finish
  simp only [if_neg hv]

/-- non-vacuity of `newId_deterministic`: a usable seed -/
example : Ident.usable [[97, 47, 98]] = true := by decide
/-- test vector: the seeds `auto` (a keyword) and `a/b` followed by the byte 195 -/
example : String.ofList (Ident.newNodeIdentifier [[97, 117, 116, 111], [97, 47, 98, 195]] []) = "protobom-auto--a-bC195" := by
  decide +kernel

end Protobom.C05
