/-
  C06 — Format detection is correct, layout-independent and non-consuming.
  Property theorems about `Model/Sniff.lean`. The input is abstracted through the two third-party
  readers (`encoding/json` into the declaration struct, `bufio.Scanner`), so "any JSON
  re-encoding" is: the same `Decl`, any `lines`.
-/
import Protobom.Proofs.Sniff
import Protobom.Proofs.Assoc
import Protobom.Gen.Skel
import Protobom.Expect.Skel

namespace Protobom.C06
open Protobom Protobom.Sniff Gen

/-- the formats the property names: written and read by protobom and announced by a declaration -/
def roundTripFormats : List Format :=
  ["text/spdx+json;version=2.3", "application/vnd.cyclonedx+json;version=1.3",
   "application/vnd.cyclonedx+json;version=1.4", "application/vnd.cyclonedx+json;version=1.5"]

/-! ### tie to the source: the functions modelled by hand still have the shape they were modelled from -/

theorem skel_SniffReader : Skel.formats_Sniffer_SniffReader = Expect.Skel.formats_Sniffer_SniffReader := rfl
theorem skel_sniff : Skel.formats_Sniffer_sniff = Expect.Skel.formats_Sniffer_sniff := rfl
theorem skel_spdxSniff : Skel.formats_spdxSniff_sniff = Expect.Skel.formats_spdxSniff_sniff := rfl
theorem skel_cdxSniff : Skel.formats_cdxSniff_sniff = Expect.Skel.formats_cdxSniff_sniff := rfl
theorem skel_stateFormat : Skel.formats_sniffState_Format = Expect.Skel.formats_sniffState_Format := rfl
theorem skel_accessors :
    Skel.formats_Format_Version = Expect.Skel.formats_Format_Version ∧
    Skel.formats_Format_Major = Expect.Skel.formats_Format_Major ∧
    Skel.formats_Format_Minor = Expect.Skel.formats_Format_Minor ∧
    Skel.formats_Format_Encoding = Expect.Skel.formats_Format_Encoding ∧
    Skel.formats_Format_Type = Expect.Skel.formats_Format_Type := ⟨rfl, rfl, rfl, rfl, rfl⟩

/-- the switch defaults of the JSON branch are error returns, the listed cases are not -/
theorem tables_shape :
    Tables.sniffCdxVersion_defaultIsErr = true ∧ Tables.sniffSpdxVersion_defaultIsErr = true ∧
    (∀ r ∈ Tables.sniffCdxVersion_cols, r.2.getLast? = some "nil") ∧
    (∀ r ∈ Tables.sniffSpdxVersion_cols, r.2.getLast? = some "nil") := by decide

theorem roundTripFormats_registered :
    ∀ f ∈ roundTripFormats, f ∈ Formats.readerFormats ∧ f ∈ Formats.writerFormats := by decide +kernel

/-! ### clause 1: detection of the writer's output -/

/-- the declaration the writer puts into a document of format `f` is detected as exactly `f` -/
theorem detect_written : ∀ f ∈ roundTripFormats,
    ∃ d, declOfFormat f = some d ∧ sniffDecl d = some f := by decide +kernel

/-- whatever the layout: the line view of the bytes does not matter once the declaration decodes -/
theorem detect_layout_independent (d : Decl) (ls ls' : List String) :
    sniffReader ⟨some d, ls⟩ = sniffReader ⟨some d, ls'⟩ := rfl

theorem detect_written_reader (f : Format) (hf : f ∈ roundTripFormats) (d : Decl)
    (hd : declOfFormat f = some d) (ls : List String) :
    (sniffReader ⟨some d, ls⟩).1 = .ok f := by
  obtain ⟨d', hd', hs⟩ := detect_written f hf
  cases hd.symm.trans hd'
  simp only [sniffReader, hs]

/-- every format registered for reading and writing is detected from its declaration, except the
    CycloneDX versions the sniffer does not list (1.0–1.2: readable only with the format stated) -/
theorem detect_registered : ∀ f ∈ Formats.readerFormats, f ∈ Formats.writerFormats →
    f ∈ roundTripFormats ∨ (typ f = "cyclonedx" ∧ version f ∈ ["1.0", "1.1", "1.2"]) := by decide +kernel

/-! ### clause 2: a format is reported only when the declaration says so -/

theorem cdx_rows : ∀ r ∈ Tables.sniffCdxVersion,
    typ r.2 = "cyclonedx" ∧ version r.2 = r.1 ∧ encoding r.2 = "json" ∧
    major r.2 ++ "." ++ minor r.2 = r.1 := by decide +kernel

theorem spdx_rows : ∀ r ∈ Tables.sniffSpdxVersion,
    typ r.2 = "spdx" ∧ "SPDX-" ++ version r.2 = r.1 ∧ encoding r.2 = "json" ∧
    major r.2 ++ "." ++ minor r.2 = version r.2 := by decide +kernel

theorem constOf_CDXFORMAT : constOf "CDXFORMAT" = "cyclonedx" := by decide

theorem sniffDecl_mem {d : Decl} {f : Format} (h : sniffDecl d = some f) :
    (equalFold d.bomFormat "cyclonedx" = true ∧ (d.specVersion, f) ∈ Tables.sniffCdxVersion) ∨
    (equalFold d.bomFormat "cyclonedx" = false ∧ (d.spdxVersion, f) ∈ Tables.sniffSpdxVersion) := by
  unfold sniffDecl at h
  rw [constOf_CDXFORMAT] at h
  by_cases hb : equalFold d.bomFormat "cyclonedx" = true
  · rw [if_pos hb] at h; exact Or.inl ⟨hb, mem_of_lookup h⟩
  · rw [if_neg hb] at h; exact Or.inr ⟨by simpa using hb, mem_of_lookup h⟩

/-- JSON branch: the reported format's accessors agree with the decoded declaration -/
theorem detect_sound_json (d : Decl) (f : Format) (h : sniffDecl d = some f) :
    (equalFold d.bomFormat "cyclonedx" = true ∧ typ f = "cyclonedx" ∧ version f = d.specVersion ∧
        encoding f = "json") ∨
    (equalFold d.bomFormat "cyclonedx" = false ∧ typ f = "spdx" ∧
        "SPDX-" ++ version f = d.spdxVersion ∧ encoding f = "json") := by
  rcases sniffDecl_mem h with ⟨hb, hm⟩ | ⟨hb, hm⟩
  · have := cdx_rows _ hm
    exact Or.inl ⟨hb, this.1, this.2.1, this.2.2.1⟩
  · have := spdx_rows _ hm
    exact Or.inr ⟨hb, this.1, this.2.1, this.2.2.1⟩

/-- a declaration that names neither a listed CycloneDX version nor a listed SPDX version is refused -/
theorem detect_refuses (d : Decl)
    (h1 : equalFold d.bomFormat "cyclonedx" = true → d.specVersion ∉ ["1.3", "1.4", "1.5"])
    (h2 : equalFold d.bomFormat "cyclonedx" = false → d.spdxVersion ∉ ["SPDX-2.2", "SPDX-2.3"]) (ls : List String) :
    (sniffReader ⟨some d, ls⟩).1 = .err := by
  cases hs : sniffDecl d with
  | none => simp only [sniffReader, hs]
  | some f =>
    exfalso
    rcases sniffDecl_mem hs with ⟨hb, hm⟩ | ⟨hb, hm⟩
    · exact h1 hb ((by decide : ∀ r ∈ Tables.sniffCdxVersion, r.1 ∈ ["1.3", "1.4", "1.5"]) _ hm)
    · exact h2 hb ((by decide : ∀ r ∈ Tables.sniffSpdxVersion, r.1 ∈ ["SPDX-2.2", "SPDX-2.3"]) _ hm)

/-- the three ways a line can carry the version -/
def versionMarkers (v : String) : List String :=
  ["SPDX-" ++ v, "'SPDX-" ++ v ++ "'", "\"SPDX-" ++ v ++ "\""]

/-- the state after the `SPDXVersion:` test of `spdxSniff.sniff` -/
def tagged (st : SniffState) (line : String) : SniffState :=
  if Str.containsSub line "SPDXVersion:" = true then { st with typ := "text/spdx", enc := "text" } else st

theorem sniffLine_cases (st : SniffState) (line : String) :
    (∃ v ∈ spdxVersions, (∃ m ∈ versionMarkers v, Str.containsSub line m = true) ∧
      sniffLine st line = (st, ({ tagged st line with ver := v } : SniffState).format)) ∨
    sniffLine st line = (tagged st line, (tagged st line).format) := by
  unfold sniffLine tagged
  simp only
  split
  · rename_i v hfind
    split at hfind
    · have hq := List.find?_some hfind
      exact Or.inl ⟨v, List.mem_of_find?_eq_some hfind, ⟨"SPDX-" ++ v, .head _, hq⟩, rfl⟩
    · cases hfind
  · split
    · rename_i v hfind
      refine Or.inl ⟨v, List.mem_of_find?_eq_some hfind, ?_, rfl⟩
      have hq := List.find?_some hfind
      rcases Bool.or_eq_true _ _ ▸ hq with hq | hq
      · exact ⟨"'SPDX-" ++ v ++ "'", .tail _ (.head _), hq⟩
      · exact ⟨"\"SPDX-" ++ v ++ "\"", .tail _ (.tail _ (.head _)), hq⟩
    · exact Or.inr rfl

theorem format_nonempty {st : SniffState} (h : st.format ≠ "") :
    st.typ ≠ "" ∧ st.enc ≠ "" ∧ st.ver ≠ "" ∧ st.format = st.typ ++ "+" ++ st.enc ++ ";version=" ++ st.ver := by
  unfold SniffState.format at h ⊢
  by_cases c : st.typ ≠ "" ∧ st.enc ≠ "" ∧ st.ver ≠ ""
  · rw [if_pos c]; exact ⟨c.1, c.2.1, c.2.2, rfl⟩
  · rw [if_neg c] at h; exact absurd rfl h

theorem format_tagged (st : SniffState) (v : String) (h1 : st.typ = "text/spdx") (h2 : st.enc = "text")
    (hv : v ∈ spdxVersions) : ({ st with ver := v } : SniffState).format = "text/spdx+text;version=" ++ v := by
  have hne : v ≠ "" := by rintro rfl; revert hv; decide
  simp only [SniffState.format, h1, h2]
  rw [if_pos ⟨by decide, by decide, hne⟩]
  rfl

/-- what the saved line-sniffer state can be while lines of `all` are read: empty, or tagged by a
    `SPDXVersion:` line -/
def StateInv (all : List String) (st : SniffState) : Prop :=
  st.ver = "" ∧ ((st.typ = "" ∧ st.enc = "") ∨
    (st.typ = "text/spdx" ∧ st.enc = "text" ∧ ∃ l ∈ all, Str.containsSub l "SPDXVersion:" = true))

theorem StateInv.tagged {all : List String} {st : SniffState} {line : String} (h : StateInv all st)
    (hl : line ∈ all) : StateInv all (tagged st line) := by
  unfold C06.tagged
  split
  · rename_i ht; exact ⟨h.1, Or.inr ⟨rfl, rfl, line, hl, ht⟩⟩
  · exact h

/-- what a report from the line branch means: among the lines `all` there is a declaration marker
    and a version marker for the reported version -/
def LineReport (all : List String) (f : Format) : Prop :=
  ∃ v ∈ spdxVersions, f = "text/spdx+text;version=" ++ v ∧
    (∃ l ∈ all, Str.containsSub l "SPDXVersion:" = true) ∧
    (∃ l ∈ all, ∃ m ∈ versionMarkers v, Str.containsSub l m = true)

theorem sniffLine_spec (all : List String) (st : SniffState) (line : String) (hl : line ∈ all)
    (hinv : StateInv all st) :
    StateInv all (sniffLine st line).1 ∧
    ((sniffLine st line).2 ≠ "" → LineReport all (sniffLine st line).2) := by
  have hst1 := hinv.tagged hl
  -- `simp only`, not `rw`: it also reduces the projections of the pair, which are slow to unify
  -- `format_nonempty` against
  rcases sniffLine_cases st line with ⟨v, hv, ⟨m, hm, hc⟩, e⟩ | e <;> simp only [e]
  · refine ⟨hinv, fun hne => ?_⟩
    rcases hst1.2 with ⟨ht, _⟩ | ⟨ht, he, htag⟩
    · exact absurd ht (format_nonempty hne).1
    · rw [format_tagged _ v ht he hv]
      exact ⟨v, hv, rfl, htag, line, hl, m, hm, hc⟩
  · exact ⟨hst1, fun hne => absurd hst1.1 (format_nonempty hne).2.2.1⟩

theorem sniffLines_spec (all ls : List String) (st : SniffState) (hls : ∀ l ∈ ls, l ∈ all)
    (hinv : StateInv all st) (h : sniffLines st ls ≠ "") : LineReport all (sniffLines st ls) := by
  induction ls generalizing st with
  | nil => exact absurd rfl h
  | cons l ls ih =>
    have hsp := sniffLine_spec all st l (hls l List.mem_cons_self) hinv
    unfold sniffLines at h ⊢
    simp only at h ⊢
    by_cases hr : (sniffLine st l).2 ≠ ""
    · rw [if_pos hr]; exact hsp.2 hr
    · rw [if_neg hr] at h ⊢
      exact ih _ (fun x hx => hls x (List.mem_cons_of_mem _ hx)) hsp.1 h

/-- line branch: a report is an SPDX tag-value format, some line carries the `SPDXVersion:` tag
    and some line carries the reported version -/
theorem detect_sound_lines (ls : List String) (h : sniffLines {} ls ≠ "") : LineReport ls (sniffLines {} ls) :=
  sniffLines_spec ls ls {} (fun _ hl => hl) ⟨rfl, Or.inl ⟨rfl, rfl⟩⟩ h

/-- and the accessors of such a report agree with it -/
theorem line_report_accessors : ∀ v ∈ spdxVersions,
    typ ("text/spdx+text;version=" ++ v) = "spdx" ∧ encoding ("text/spdx+text;version=" ++ v) = "text" ∧
    version ("text/spdx+text;version=" ++ v) = v := by decide +kernel

/-- input without any `SPDXVersion:` line and without a decodable declaration is refused -/
theorem detect_refuses_lines (ls : List String)
    (h : ∀ l ∈ ls, Str.containsSub l "SPDXVersion:" = false) : (sniffReader ⟨none, ls⟩).1 = .err := by
  by_cases hf : sniffLines {} ls ≠ ""
  · obtain ⟨_, _, _, ⟨l1, hl1, hc1⟩, _⟩ := detect_sound_lines ls hf
    rw [h l1 hl1] at hc1; cases hc1
  · simp only [sniffReader, if_neg hf]

/-! ### clause 3: total and non-consuming -/

theorem detect_total (i : Input) : (sniffReader i).1.isPanic = false := sniffReader_not_panic i

/-- the stream is at offset 0 afterwards, whatever the reads consumed and wherever it started -/
theorem detect_rewinds (adv : Nat → Nat) (p : Nat) (i : Input) :
    posAfter adv p (sniffReader i).2 = 0 := by
  unfold sniffReader
  split <;> simp [posAfter]

theorem parse_sees_all {α} (bytes : List α) (adv : Nat → Nat) (p : Nat) (i : Input) :
    bytes.drop (posAfter adv p (sniffReader i).2) = bytes := by
  rw [detect_rewinds]; rfl

/-- test vectors, one per branch of `sniffReader` -/
example : (sniffReader ⟨some ⟨"CycloneDX", "1.5", ""⟩, []⟩).1 = .ok "application/vnd.cyclonedx+json;version=1.5" := by decide
example : (sniffReader ⟨some ⟨"cyclonedx", "1.6", ""⟩, []⟩).1 = .err := by decide +kernel
example : (sniffReader ⟨none, ["SPDXVersion: SPDX-2.3"]⟩).1 = .ok "text/spdx+text;version=2.3" := by decide +kernel
example : (sniffReader ⟨none, ["SPDXVersion: x", "  \"SPDX-2.2\""]⟩).1 = .ok "text/spdx+text;version=2.2" := by decide +kernel
example : (sniffReader ⟨none, ["\"SPDX-2.2\""]⟩).1 = .err := by decide +kernel

end Protobom.C06
