/-
  C10 — Intersection obeys set-intersection laws.
-/
import Protobom.Proofs.Intersect
import Protobom.Proofs.NodeAttrs

namespace Protobom.C10
open Protobom

theorem intersect_nodes (a b : NodeList) (x : String) :
    x ∈ (a.intersect b).ids ↔ x ∈ a.ids ∧ x ∈ b.ids := (intersect_sem a b).ids x

/-- each surviving node exactly once, even when the operands repeat identifiers -/
theorem intersect_nodes_once (a b : NodeList) : (a.intersect b).ids.Nodup := intersect_ids_nodup a b

/-- roots: exactly the surviving nodes that are a root of at least one operand; the two one-sided
    clauses of the property are `intersect_roots_sub` and `intersect_roots_sup` -/
theorem intersect_rootset (a b : NodeList) (x : String) :
    x ∈ (a.intersect b).roots ↔ x ∈ (a.intersect b).ids ∧ (x ∈ a.roots ∨ x ∈ b.roots) := by
  rw [(intersect_sem a b).roots, (intersect_sem a b).ids]

theorem intersect_roots_sub (a b : NodeList) (x : String) (h : x ∈ (a.intersect b).roots) :
    (x ∈ a.roots ∨ x ∈ b.roots) ∧ x ∈ (a.intersect b).ids :=
  ((intersect_rootset a b x).mp h).symm

theorem intersect_roots_sup (a b : NodeList) (x : String) (ha : x ∈ a.roots) (_hb : x ∈ b.roots)
    (hs : x ∈ (a.intersect b).ids) : x ∈ (a.intersect b).roots :=
  (intersect_rootset a b x).mpr ⟨hs, Or.inl ha⟩

theorem intersect_edgeset (a b : NodeList) (s : String) (t : Int) (d : String) :
    (a.intersect b).HasEdge s t d ↔
      (a.HasEdge s t d ∨ b.HasEdge s t d) ∧ (s ∈ a.ids ∧ s ∈ b.ids) ∧ (d ∈ a.ids ∧ d ∈ b.ids) :=
  (intersect_sem a b).edges s t d

theorem intersect_edges_sub (a b : NodeList) (s t d) (h : (a.intersect b).HasEdge s t d) :
    (a.HasEdge s t d ∨ b.HasEdge s t d) ∧ s ∈ (a.intersect b).ids ∧ d ∈ (a.intersect b).ids :=
  ((intersect_sem a b).rel s t d).mp h

theorem intersect_edges_sup (a b : NodeList) (s t d) (ha : a.HasEdge s t d) (_hb : b.HasEdge s t d)
    (hs : s ∈ (a.intersect b).ids) (hd : d ∈ (a.intersect b).ids) : (a.intersect b).HasEdge s t d :=
  ((intersect_sem a b).rel s t d).mpr ⟨Or.inl ha, hs, hd⟩

theorem intersect_comm (a b : NodeList) : a.intersect b ≃ₙ b.intersect a :=
  (intersect_sem a b).equiv (intersect_sem b a) (fun _ => and_comm)
    (fun _ => and_congr and_comm or_comm) (fun _ _ _ _ _ => or_comm)

/-- associative on the three sets, for operands of any shape (repeated identifiers, dangling edges,
    roots that name no node): unlike the union (C09, `union_assoc_partial`) no closure hypothesis is
    needed, because every edge and root of an intersection is already restricted to its nodes -/
theorem intersect_assoc (a b c : NodeList) :
    (a.intersect b).intersect c ≃ₙ a.intersect (b.intersect c) :=
  (intersect_sem _ c).equiv (intersect_sem a _)
    (fun x => by simp only [(intersect_sem _ _).ids, and_assoc])
    -- with the `_sem` forms written out both sides are the same conjunction of memberships, regrouped
    (fun x => by simp only [(intersect_sem _ _).roots, (intersect_sem _ _).ids]; grind)
    (fun s t d => by simp only [(intersect_sem _ _).edges, (intersect_sem _ _).ids]; grind)

/-- the intersection of three lists (grouped to the left; the other grouping is `intersect_assoc`)
    has exactly the nodes all three have -/
theorem intersect3_nodes (a b c : NodeList) (x : String) :
    x ∈ ((a.intersect b).intersect c).ids ↔ x ∈ a.ids ∧ x ∈ b.ids ∧ x ∈ c.ids := by
  simp only [(intersect_sem _ _).ids, and_assoc]

/-- below the union: an intersection never has a node (here) or an edge (`intersect_sub_union_edges`)
    that the union lacks -/
theorem intersect_sub_union_nodes (a b : NodeList) (x : String) (h : x ∈ (a.intersect b).ids) :
    x ∈ (a.union b).ids :=
  ((union_sem a b).ids x).mpr (Or.inl (((intersect_sem a b).ids x).mp h).1)

/-- with the union (C09) the node sets form a distributive lattice: the two distributive laws (this
    and `union_intersect_distrib_nodes`) and the two absorption laws (`union_intersect_absorb`,
    `intersect_union_absorb`) -/
theorem intersect_union_distrib_nodes (a b c : NodeList) (x : String) :
    x ∈ (a.intersect (b.union c)).ids ↔ x ∈ ((a.intersect b).union (a.intersect c)).ids := by
  simp only [(intersect_sem _ _).ids, (union_sem _ _).ids]; grind

theorem union_intersect_distrib_nodes (a b c : NodeList) (x : String) :
    x ∈ (a.union (b.intersect c)).ids ↔ x ∈ ((a.union b).intersect (a.union c)).ids := by
  simp only [(intersect_sem _ _).ids, (union_sem _ _).ids]; grind

theorem union_intersect_absorb (a b : NodeList) (x : String) :
    x ∈ (a.union (a.intersect b)).ids ↔ x ∈ a.ids := by
  simp only [(intersect_sem _ _).ids, (union_sem _ _).ids]; grind

/-- an intersection's edges are edges of the union of the operands (both restrict to present nodes) -/
theorem intersect_sub_union_edges (a b : NodeList) (s t d) (h : (a.intersect b).HasEdge s t d) :
    (a.union b).HasEdge s t d := by
  rw [intersect_edgeset] at h
  rw [(union_sem a b).edges]
  exact ⟨h.1, Or.inl h.2.1.1, Or.inl h.2.2.1⟩

/-- greatest lower bound: a list whose nodes are nodes of both operands has only nodes of the
    intersection (with `intersect_nodes`, the intersection is the meet of the node sets) -/
theorem intersect_glb_nodes (a b c : NodeList) (ha : ∀ x, x ∈ c.ids → x ∈ a.ids)
    (hb : ∀ x, x ∈ c.ids → x ∈ b.ids) (x : String) (h : x ∈ c.ids) : x ∈ (a.intersect b).ids :=
  ((intersect_sem a b).ids x).mpr ⟨ha x h, hb x h⟩

/-- idempotent: same nodes, the roots that name a node, the edges between present nodes -/
theorem intersect_idem (a : NodeList) :
    (∀ x, x ∈ (a.intersect a).ids ↔ x ∈ a.ids) ∧
    (∀ x, x ∈ (a.intersect a).roots ↔ x ∈ a.roots ∧ x ∈ a.ids) ∧
    (∀ s t d, (a.intersect a).HasEdge s t d ↔ a.cleanEdges.HasEdge s t d) :=
  ⟨fun x => by rw [(intersect_sem a a).ids, and_self],
   fun x => by rw [(intersect_sem a a).roots, and_self, or_self, and_comm],
   fun s t d => by rw [intersect_edgeset, cleanEdges_rel, or_self, and_self, and_self]⟩

/-- for a well-formed list the intersection with itself is the list (on the sets) -/
theorem intersect_idem_wf (a : NodeList) (h : a.WF) : a.intersect a ≃ₙ a :=
  (intersect_sem a a).equiv
    (Sem.self fun _ _ d ⟨e, he, hs, _, hd⟩ => ⟨hs ▸ h.src e he, h.dst e he d hd⟩)
    (fun _ => and_self_iff) (fun x => ⟨fun hx => hx.2.elim id id, fun hx => ⟨⟨h.roots x hx, h.roots x hx⟩, .inl hx⟩⟩)
    (fun _ _ _ _ _ => or_self_iff)

/-- absorption: intersecting with a union that contains the first operand yields its nodes -/
theorem intersect_union_absorb (a b : NodeList) (x : String) :
    x ∈ (a.intersect (a.union b)).ids ↔ x ∈ a.ids := by
  rw [(intersect_sem _ _).ids, (union_sem a b).ids]
  exact ⟨fun h => h.1, fun h => ⟨h, Or.inl h⟩⟩

theorem intersect_empty (a : NodeList) :
    (a.intersect NodeList.empty).ids = [] ∧ (a.intersect NodeList.empty).roots = [] ∧
    ∀ s t d, ¬ (a.intersect NodeList.empty).HasEdge s t d :=
  (intersect_sem a _).empty (fun _ h => List.not_mem_nil h.2) fun _ h => h.1

theorem empty_intersect (a : NodeList) :
    (NodeList.empty.intersect a).ids = [] ∧ (NodeList.empty.intersect a).roots = [] ∧
    ∀ s t d, ¬ (NodeList.empty.intersect a).HasEdge s t d :=
  (intersect_sem _ a).empty (fun _ h => List.not_mem_nil h.1) fun _ h => h.1

/-! ### attributes of surviving nodes: second operand wins when non-empty -/

theorem intersect_node (a b : NodeList) (ha : a.ids.Nodup) (hb : b.ids.Nodup) (x : Node) :
    x ∈ (a.intersect b).nodes ↔ ∃ p ∈ a.nodes, ∃ q ∈ b.nodes, q.id = p.id ∧ x = p.update q := by
  rw [intersect_nodes_eq, List.mem_filterMap]
  constructor
  · rintro ⟨i, hi, hx⟩
    obtain ⟨hia, hib⟩ := (mem_sharedIds a b i).mp hi
    obtain ⟨p, hp, hpi, hpm⟩ := indexed_some a i hia
    obtain ⟨q, hq, hqi, hqm⟩ := indexed_some b i hib
    simp only [intersectNode, hp, hq, Option.some.injEq] at hx
    exact ⟨p, hpm, q, hqm, hqi.trans hpi.symm, hx.symm⟩
  · rintro ⟨p, hp, q, hq, hqp, rfl⟩
    refine ⟨p.id, (mem_sharedIds a b p.id).mpr ⟨List.mem_map.mpr ⟨p, hp, rfl⟩, List.mem_map.mpr ⟨q, hq, hqp⟩⟩, ?_⟩
    simp only [intersectNode, indexed_eq_of_nodup a ha p hp]
    rw [← hqp, indexed_eq_of_nodup b hb q hq]

theorem intersect_attr_precedence (n m : Node) (hn : n.shaped) (hm : m.shaped) (i : Nat)
    (hi : i < Gen.Schema.nodeAttrs.length) :
    (n.update m).attrs[i]? =
      if (m.attrs[i]?.getD (.str "")).isEmpty then n.attrs[i]? else m.attrs[i]? :=
  update_attr n m hn hm i hi

/-- non-vacuity of the well-formedness hypothesis: a cyclic two-node list with a root -/
example : ({ nodes := [{ id := "a" }, { id := "b" }],
             edges := [{ ty := 5, src := "a", tos := ["b"] }, { ty := 10, src := "b", tos := ["a"] }],
             roots := ["a"] } : NodeList).WF := by
  constructor <;> decide

end Protobom.C10
