/-
  C12 — Copies and combined results are independent values.
  Identity layer (values with allocation tags, Model/Alias.lean); the per-field copy forms are the
  regenerated tables.
-/
import Protobom.Proofs.Alias

namespace Protobom.C12
open Protobom Protobom.L2 Gen

/-- the shape a field of a given schema kind has at the identity layer: scalars are leaves;
    string/enum lists, maps and timestamps are a box over leaves (or a leaf when nil); nothing is
    asked of the other kinds (lists of persons / references: a box over message boxes) -/
def kindShape (kind : String) (o : Obj) : Bool :=
  if kind = "str" ∨ kind = "bool" ∨ kind = "enum" then o.isLeaf
  else if kind = "strs" ∨ kind = "enums" ∨ kind = "imap" ∨ kind = "date" then
    (match o with | .leaf _ => true | .box _ ks => ks.all Obj.isLeaf)
  else true

/-- a copy form that gives a field of this kind storage of its own -/
def formOK (kind form : String) : Bool :=
  if kind = "str" ∨ kind = "bool" ∨ kind = "enum" then form = "alias"
  else if kind = "strs" ∨ kind = "enums" ∨ kind = "imap" then form = "clone" ∨ form = "elemcopy"
  else if kind = "date" then form = "newtime"
  else form = "elemcopy"

theorem formFresh_of_formOK (kind form : String) (o : Obj) (hs : kindShape kind o = true)
    (hf : formOK kind form = true) : formFresh form o = true := by
  cases o with
  | leaf v => rfl
  | box t ks =>
    unfold kindShape at hs
    unfold formOK at hf
    show (if form = "clone" ∨ form = "newtime" then ks.all Obj.isLeaf else decide (form = "elemcopy")) = true
    by_cases h1 : kind = "str" ∨ kind = "bool" ∨ kind = "enum"
    · -- a scalar kind is never a box
      rw [if_pos h1] at hs; cases hs
    · rw [if_neg h1] at hs hf
      by_cases h3 : kind = "strs" ∨ kind = "enums" ∨ kind = "imap"
      · rw [if_pos h3] at hf
        rw [if_pos (h3.elim Or.inl fun h => Or.inr (h.elim Or.inl fun h => Or.inr (Or.inl h)))] at hs
        rcases of_decide_eq_true hf with hf | hf
        · rw [if_pos (Or.inl hf)]; exact hs
        · subst hf; simp
      · rw [if_neg h3] at hf
        by_cases hd : kind = "date"
        · rw [if_pos hd] at hf
          rw [if_pos (Or.inr (Or.inr (Or.inr hd)))] at hs
          rw [if_pos (Or.inr (of_decide_eq_true hf))]; exact hs
        · rw [if_neg hd] at hf
          cases of_decide_eq_true hf; simp

/-- fields of a message type in schema order with their kinds, and the copy form of each -/
def formsFor (fields : List (String × String)) (table : List (String × String)) : List String :=
  fields.map (fun f => (table.lookup f.1).getD "missing")

def tableOK (fields : List (String × String)) (table : List (String × String)) : Bool :=
  fields.all (fun f => formOK f.2 ((table.lookup f.1).getD "missing"))

def shapesOK : List (String × String) → List Obj → Bool
  | f :: fs, o :: os => kindShape f.2 o && shapesOK fs os
  | [], [] => true
  | _, _ => false

theorem formsFresh_of_tableOK (fields : List (String × String)) (table : List (String × String))
    (ks : List Obj) (ht : tableOK fields table = true) (hs : shapesOK fields ks = true) :
    formsFresh (formsFor fields table) ks = true := by
  fun_induction shapesOK fields ks with
  | case1 f fs o os ih =>
    simp only [tableOK, List.all_cons, Bool.and_eq_true] at ht
    simp only [Bool.and_eq_true] at hs
    simp only [formsFor, List.map_cons, formsFresh, Bool.and_eq_true]
    exact ⟨formFresh_of_formOK f.2 _ o hs.1 ht.1, ih ht.2 hs.2⟩
  | case2 => rfl
  | case3 => cases hs

/-- the Go field names of `Node` with their kinds, in schema order -/
def nodeGoFields : List (String × String) :=
  (Schema.nodeProtoNames.zip Schema.nodeAllFields).map (fun (pn, f) => (pn.1, f.2.2))

/-! ### every field of every message type is copied with a form that gives it fresh storage
    (enumerated from the regenerated schema and tables; a field added later with a bare alias,
    or not copied at all, fails here) -/

theorem node_copy_table_ok : tableOK nodeGoFields NodeFields.nodeCopyTable = true := by decide +kernel
theorem edge_copy_table_ok : tableOK Schema.edgeFields NodeFields.edgeCopyTable = true := by decide
theorem person_copy_table_ok : tableOK Schema.personFields NodeFields.personCopyTable = true := by decide
theorem extref_copy_table_ok : tableOK Schema.extRefFields NodeFields.extRefCopyTable = true := by decide

/-- **independence of a copy** (any of the four message types, given its fields and table):
    every allocation tag reachable from the copy, at every nesting level, was allocated by the
    call, so the copy shares no mutable state with its source; and the copy has the same value -/
theorem copy_independent (fields : List (String × String)) (table : List (String × String))
    (ht : tableOK fields table = true) (t : Nat) (ks : List Obj) (hs : shapesOK fields ks = true) (s : Nat) :
    (∀ x ∈ (copyMsg (formsFor fields table) (.box t ks) s).1.tags, s ≤ x) ∧
    (copyMsg (formsFor fields table) (.box t ks) s).1.erase = (Obj.box t ks).erase :=
  have h := copyMsg_spec _ t ks s (formsFresh_of_tableOK fields table ks ht hs)
  ⟨fun x hx => (h.1.2 x hx).1, h.2⟩

theorem node_copy_independent (t : Nat) (ks : List Obj) (hs : shapesOK nodeGoFields ks = true) (s : Nat) :
    (∀ x ∈ (copyMsg (formsFor nodeGoFields NodeFields.nodeCopyTable) (.box t ks) s).1.tags, s ≤ x) ∧
    (copyMsg (formsFor nodeGoFields NodeFields.nodeCopyTable) (.box t ks) s).1.erase = (Obj.box t ks).erase :=
  copy_independent _ _ node_copy_table_ok t ks hs s

theorem edge_copy_independent (t : Nat) (ks : List Obj) (hs : shapesOK Schema.edgeFields ks = true) (s : Nat) :
    (∀ x ∈ (copyMsg (formsFor Schema.edgeFields NodeFields.edgeCopyTable) (.box t ks) s).1.tags, s ≤ x) ∧
    (copyMsg (formsFor Schema.edgeFields NodeFields.edgeCopyTable) (.box t ks) s).1.erase = (Obj.box t ks).erase :=
  copy_independent _ _ edge_copy_table_ok t ks hs s

theorem person_copy_independent (t : Nat) (ks : List Obj) (hs : shapesOK Schema.personFields ks = true) (s : Nat) :
    (∀ x ∈ (copyMsg (formsFor Schema.personFields NodeFields.personCopyTable) (.box t ks) s).1.tags, s ≤ x) ∧
    (copyMsg (formsFor Schema.personFields NodeFields.personCopyTable) (.box t ks) s).1.erase = (Obj.box t ks).erase :=
  copy_independent _ _ person_copy_table_ok t ks hs s

theorem extref_copy_independent (t : Nat) (ks : List Obj) (hs : shapesOK Schema.extRefFields ks = true) (s : Nat) :
    (∀ x ∈ (copyMsg (formsFor Schema.extRefFields NodeFields.extRefCopyTable) (.box t ks) s).1.tags, s ≤ x) ∧
    (copyMsg (formsFor Schema.extRefFields NodeFields.extRefCopyTable) (.box t ks) s).1.erase = (Obj.box t ks).erase :=
  copy_independent _ _ extref_copy_table_ok t ks hs s

/-- **union / intersection**: a node of the result is a copy of the first operand's node whose
    fields are overwritten (by alias) with fields of a *copy* of the second operand's node; every
    tag reachable from it was allocated by the call, whatever fields `Update` takes over -/
theorem merged_node_independent (takes : List Bool) (ta tb : Nat) (ka kb : List Obj)
    (ha : shapesOK nodeGoFields ka = true) (hb : shapesOK nodeGoFields kb = true) (s : Nat) :
    let forms := formsFor nodeGoFields NodeFields.nodeCopyTable
    let ca := copyMsg forms (.box ta ka) s
    let cb := copyMsg forms (.box tb kb) ca.2
    match ca.1, cb.1 with
    | .box _ fa, .box _ fb => ∀ x ∈ tagsL (updateFields takes fa fb), s ≤ x
    | _, _ => True := by
  intro forms ca cb
  have h1 := copyMsg_spec forms ta ka s (formsFresh_of_tableOK _ _ ka node_copy_table_ok ha)
  have h2 := copyMsg_spec forms tb kb ca.2 (formsFresh_of_tableOK _ _ kb node_copy_table_ok hb)
  simp only [ca, cb, copyMsg] at h1 h2 ⊢
  intro x hx
  -- a tag of the first copy, or of the second, which was made from the counter the first one left
  rcases updateFields_tags takes _ _ x hx with h | h
  · exact (h1.1.2 x (List.mem_cons_of_mem _ h)).1
  · exact Nat.le_trans h1.1.1 (h2.1.2 x (List.mem_cons_of_mem _ h)).1

/-- non-vacuity: an edge with two targets has the shape the theorems assume -/
example : shapesOK Schema.edgeFields
    [.leaf "5", .leaf "a", .box 7 [.leaf "b", .leaf "c"]] = true := by decide

end Protobom.C12
