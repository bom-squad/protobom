/-
  C07 — Serializers are total and deterministic on arbitrary documents.
  Theorems about `Model/Write.lean` (the serializer models themselves are `Spdx.serSPDX`,
  `Cdx.serCDX`, tied to the code by the streams `spdx`, `cdx`; the fault stream is `ser`).
-/
import Protobom.Model.Write
import Protobom.Props.C04
import Protobom.Gen.Skel
import Protobom.Expect.Skel

namespace Protobom.C07
open Protobom Protobom.Parse Protobom.Write Gen

theorem spdx_sites_guarded : ∀ e ∈ Write.spdxSites, ∀ s ∈ e.2, guardPresent s = true :=
  C04.all_sites_guarded.1 _ (.tail _ (.tail _ (.head _)))
theorem cdx_sites_guarded : ∀ e ∈ Write.cdxSites, ∀ s ∈ e.2, guardPresent s = true :=
  C04.all_sites_guarded.1 _ (.tail _ (.tail _ (.tail _ (.head _))))
theorem writer_sites_guarded : ∀ e ∈ Write.writerSites, ∀ s ∈ e.2, guardPresent s = true :=
  C04.all_sites_guarded.1 _ (.tail _ (.tail _ (.tail _ (.tail _ (.head _)))))

theorem skel_CDX_Serialize : Skel.serializers_CDX_Serialize = Expect.Skel.serializers_CDX_Serialize := rfl
theorem skel_SPDX_Serialize : Skel.serializers_SPDX23_Serialize = Expect.Skel.serializers_SPDX23_Serialize := rfl
theorem skel_WriteStream :
    Skel.writer_Writer_WriteStreamWithOptions = Expect.Skel.writer_Writer_WriteStreamWithOptions := rfl

def NoPanic {α} (o : Outcome α) : Prop := o.isPanic = false

theorem NoPanic.ok {α} (a : α) : NoPanic (Outcome.ok a) := rfl
theorem NoPanic.err {α} : NoPanic (Outcome.err : Outcome α) := rfl

theorem NoPanic.bind {α β} {o : Outcome α} {f : α → Outcome β} (h : NoPanic o) (hf : ∀ a, NoPanic (f a)) :
    NoPanic (o.bind f) := by
  cases o with
  | ok a => exact hf a
  | err => rfl
  | panic s => cases h

theorem NoPanic.map {α β} {o : Outcome α} (f : α → β) (h : NoPanic o) : NoPanic (o.map f) :=
  h.bind (fun _ => rfl)

theorem NoPanic.ite {α} {c : Prop} [Decidable c] {a b : Outcome α} (ha : NoPanic a) (hb : NoPanic b) :
    NoPanic (if c then a else b) := by
  split <;> assumption

theorem serSPDX_not_panic (d : Document) : NoPanic (Spdx.serSPDX d) := by
  unfold Spdx.serSPDX
  split <;> rfl

theorem phaseOut_not_panic (dt : DocType) : NoPanic (Cdx.phaseOut dt) := by
  unfold Cdx.phaseOut
  split
  · rfl
  · split
    · exact .ite rfl rfl
    · rfl

theorem pass1_not_panic (known : String → Bool) (edges : List Edge) : NoPanic (Cdx.pass1 known edges) := by
  unfold Cdx.pass1
  refine List.foldlRecOn _ _ rfl fun acc hacc e _ => hacc.bind fun st => ?_
  -- the branches of the loop body: unknown source; contains (all targets known or not); dependsOn; any other type
  exact .ite rfl (.ite (.ite rfl rfl) (.ite (by simp only; split <;> rfl) rfl))

theorem serCDX_not_panic (d : Document) : NoPanic (Cdx.serCDX d) := by
  unfold Cdx.serCDX
  split
  · rfl
  · rfl
  · refine .ite (.ite rfl rfl) (.ite rfl ?_)
    simp only
    split
    · rfl
    · refine NoPanic.bind ?_ fun lcs => (pass1_not_panic _ _).bind fun _ => rfl
      exact List.foldlRecOn _ _ rfl fun acc hacc dt _ =>
        hacc.bind fun l => (phaseOut_not_panic dt).map _

/-- for every document value and every set of nil pointers / nil list elements the SPDX
    serializer returns output or an error -/
theorem serSPDXn_total (nils : List String) (d : Document) : NoPanic (serSPDXn nils d) := by
  unfold serSPDXn
  rw [C04.unguarded_none Write.spdxSites spdx_sites_guarded nils]
  exact (serSPDX_not_panic d).map _

/-- so does the CycloneDX serializer, at every spec version. `d` ranges over every document value
    (absent metadata or node list, unknown enum numbers, empty or duplicate identifiers, dangling
    edges, cycles, no or many roots): these are inputs the model `serCDX` accepts, and it has no
    panic branch of its own (the hierarchy builder is structurally recursive on its fuel). What this
    rests on is that every dereference site in `Write.cdxSites` is guarded in the source. -/
theorem serCDXn_total (v : Nat) (nils : List String) (d : Document) : NoPanic (serCDXn v nils d) := by
  unfold serCDXn
  rw [C04.unguarded_none Write.cdxSites cdx_sites_guarded nils]
  exact (serCDX_not_panic d).map _

/-- the writer: for every format string, nil set and (possibly nil) document, output or error -/
theorem writeStream_total (f : Sniff.Format) (nils : List String) (d : Option Document) :
    NoPanic (writeStream f nils d) := by
  unfold writeStream
  rw [C04.unguarded_none Write.writerSites writer_sites_guarded nils]
  simp only
  split
  · rfl
  · split
    · rfl
    · split
      · exact serSPDXn_total nils _
      · exact serCDXn_total _ nils _

/-- every serialization of a history is the serialization of that document alone: nothing carried
    over from earlier calls (in the implementation this is the per-call serializer state; stream
    `ser` runs good / failing / good sequences on the real registry against this) -/
theorem writeSeq_independent (f : Sniff.Format) (hist : List (List String × Option Document)) (i : Nat)
    (h : i < hist.length) :
    (writeSeq f hist)[i]'(by simpa [writeSeq] using h) = writeStream f hist[i].1 hist[i].2 := by
  simp [writeSeq]

theorem writeSeq_total (f : Sniff.Format) (hist : List (List String × Option Document)) :
    ∀ o ∈ writeSeq f hist, NoPanic o := by
  intro o ho
  simp only [writeSeq, List.mem_map] at ho
  obtain ⟨h, _, rfl⟩ := ho
  exact writeStream_total f h.1 h.2

/-- the same document twice: the same output (the creation timestamp is not part of the model) -/
theorem serialize_deterministic (f : Sniff.Format) (nils : List String) (d : Option Document)
    (before : List (List String × Option Document)) :
    (writeSeq f (before ++ [(nils, d)])).getLast? = (writeSeq f [(nils, d)]).getLast? := by
  simp [writeSeq]

/-- non-vacuity: a site whose guard is missing is found by `unguarded` (on which `serSPDXn` panics) -/
example : (unguarded [("NodeList.Nodes[]", [⟨"serializers.SPDX23.buildPackages", "nosuchguard"⟩])]
    ["NodeList.Nodes[]"]).isSome = true := by decide +kernel

end Protobom.C07
