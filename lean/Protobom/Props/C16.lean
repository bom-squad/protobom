/-
  C16 — Lookups and node matching return exactly the documented matches.
-/
import Protobom.Proofs.Match
import Protobom.Proofs.Intersect

namespace Protobom.C16
open Protobom

/-! ### lookups return precisely the nodes satisfying the criterion -/

theorem byName_exact (nl : NodeList) (name : String) (n : Node) :
    n ∈ nl.getNodesByName name ↔ n ∈ nl.nodes ∧ n.name = name := by
  simp [NodeList.getNodesByName]

/-- the result keeps the list's order and multiplicity: it *is* the filter -/
theorem byName_is_filter (nl : NodeList) (name : String) :
    nl.getNodesByName name = nl.nodes.filter (·.name = name) := rfl

theorem byID_exact (nl : NodeList) (id : String) (n : Node) (h : nl.getNodeByID id = some n) :
    n ∈ nl.nodes ∧ n.id = id := (getNodeByID_id nl id n h).symm

theorem byID_complete (nl : NodeList) (id : String) (h : id ∈ nl.ids) : ∃ n, nl.getNodeByID id = some n :=
  let ⟨n, hn, _, _⟩ := getNodeByID_some nl id h; ⟨n, hn⟩

theorem byID_none (nl : NodeList) (id : String) (h : id ∉ nl.ids) : nl.getNodeByID id = none :=
  getNodeByID_none nl id h

/-- with unique identifiers the lookup returns *the* node with that identifier -/
theorem byID_unique (nl : NodeList) (hnd : nl.ids.Nodup) (p : Node) (hp : p ∈ nl.nodes) :
    nl.getNodeByID p.id = some p :=
  find?_id_of_nodup nl.nodes hnd p hp

theorem byIdentifier_exact (nl : NodeList) (t : Int) (v : String) (n : Node) :
    n ∈ nl.getNodesByIdentifierNum t v ↔ n ∈ nl.nodes ∧ n.identifiers.lookup t = some v := by
  simp [NodeList.getNodesByIdentifierNum]

theorem purlType_exact (nl : NodeList) (t : String) (n : Node) :
    n ∈ (nl.getNodesByPurlType t).nodes ↔
      n ∈ nl.nodes ∧ (("pkg:" ++ t ++ "/").isPrefixOf n.purl ∨ ("pkg:/" ++ t ++ "/").isPrefixOf n.purl) := by
  show n ∈ nl.nodes.filter _ ↔ _
  rw [List.mem_filter, Bool.or_eq_true]

/-- root membership: with unique identifiers the root lookup is exactly the filter -/
theorem rootNodes_exact (nl : NodeList) (hnd : nl.ids.Nodup) :
    nl.getRootNodes = nl.nodes.filter (·.id ∈ nl.roots) := by
  unfold NodeList.getRootNodes
  apply List.take_of_length_le
  -- at most one node per distinct root identifier
  have h1 : ((nl.nodes.filter (·.id ∈ nl.roots)).map (·.id)).Nodup := hnd.sublist (List.filter_sublist.map _)
  have h2 : ∀ x ∈ (nl.nodes.filter (·.id ∈ nl.roots)).map (·.id), x ∈ nl.roots.eraseDups := by
    intro x hx
    obtain ⟨n, hn, rfl⟩ := List.mem_map.mp hx
    simpa using (List.mem_filter.mp hn).2
  have := List.Nodup.length_le_of_subset h1 h2
  simpa using this

/-- without the uniqueness hypothesis the lookup still returns only root nodes of the list -/
theorem rootNodes_sound (nl : NodeList) (n : Node) (h : n ∈ nl.getRootNodes) :
    n ∈ nl.nodes ∧ n.id ∈ nl.roots := by
  unfold NodeList.getRootNodes at h
  have := List.mem_of_mem_take h
  simpa using this

/-! ### node matching follows the documented rule -/

theorem matching_follows_rule (nl : NodeList) (p : Node) : nl.getMatchingNode p = specMatch nl p :=
  getMatchingNode_eq_spec nl p

theorem matching_in_list (nl : NodeList) (p n : Node) (h : nl.getMatchingNode p = .found n) :
    n ∈ nl.nodes := specMatch_mem nl p n (getMatchingNode_eq_spec nl p ▸ h)

/-- the outcome does not depend on the order of the nodes -/
theorem matching_order_independent (a b : NodeList) (p : Node) (h : a.nodes.Perm b.nodes) :
    a.getMatchingNode p = b.getMatchingNode p := by
  rw [getMatchingNode_eq_spec, getMatchingNode_eq_spec]; exact specMatch_perm a b p h

/-- … nor on the iteration order of the probe's hash map -/
theorem hashesMatch_order_independent (n : Node) (th th' : List (Int × String)) (h : th.Perm th') :
    n.hashesMatch th = n.hashesMatch th' := hashesMatchL_perm n.hashes th th' h

end Protobom.C16
