/-
  C01 — SPDX 2.3 write-then-read round trip preserves the SBOM graph.

  `rtSPDX = serSPDX ; codecSPDX ; unserSPDX`. The class predicate `SpdxClass` is explicit: identifiers
  are unchanged by the tools-golang identifier codec and are not the reserved `DOCUMENT`, the graph is
  closed, every node is a PACKAGE or a FILE, every package is unchanged by the tools-golang package
  codec (supplier/originator strings, reference categories). `codecId_of_noPrefix` shows the first
  condition holds for every identifier not starting with `SPDXRef-`.

  PARTIAL: the second pass is proved node by node and for the edge list; that the tools-golang
  codec is again the identity on the whole document that came back is left to stream `spdx`.
-/
import Protobom.Proofs.Spdx
import Protobom.Proofs.SpdxAttrs

namespace Protobom.C01
open Protobom Protobom.Spdx Gen

structure SpdxClass (d : Document) (md : Metadata) (nl : NodeList) : Prop where
  hmd : d.metadata = some md
  hnl : d.nodeList = some nl
  tools : ∀ t ∈ md.tools, toolName t ≠ ""
  kinds : ∀ n ∈ nl.nodes, n.typ = 0 ∨ n.typ = 1
  ids : ∀ n ∈ nl.nodes, codecId n.id = n.id ∧ n.id ≠ "" ∧ n.id ≠ "DOCUMENT"
  closedSrc : ∀ e ∈ nl.edges, e.src ∈ nl.ids
  closedDst : ∀ e ∈ nl.edges, ∀ x ∈ e.tos, x ∈ nl.ids
  roots : ∀ r ∈ nl.roots, r ∈ nl.ids
  types : ∀ e ∈ nl.edges, edgeFromSPDX2 (edgeToSPDX2 e.ty) = e.ty
  pkgs : ∀ n ∈ nl.nodes, n.typ ≠ 1 → codecPackage (packageOf n) = .ok (packageOf n)

/-- all 44 relationship types (every enum value except UNKNOWN = 0) satisfy the `types` clause (regenerated tables) -/
theorem all_relationship_types_survive :
    ∀ nt ∈ Schema.edgeTypes, nt.2 ≠ 0 → edgeFromSPDX2 (edgeToSPDX2 nt.2) = nt.2 := edge_types_roundtrip

theorem all_checksum_algorithms_survive :
    ∀ a ∈ spdxHashes, hashFromSPDX (hashToSPDX a) = a ∧ a ≠ 0 ∧ knownHash a = true := hash_algos_roundtrip

theorem sixteen_checksum_algorithms : spdxHashes.length = 16 := by decide
theorem forty_four_relationship_types : (Schema.edgeTypes.filter (·.2 ≠ 0)).length = 44 := by decide

theorem id_stable_of_mem (c : SpdxClass d md nl) (x : String) (hx : x ∈ nl.ids) :
    codecId x = x ∧ x ≠ "" ∧ x ≠ "DOCUMENT" := by
  obtain ⟨n, hn, rfl⟩ := List.mem_map.mp hx
  exact c.ids n hn

/-- the shape of the result: packages then files, one single-target edge per (edge, target),
    the same root list -/
theorem roundtrip_shape (d : Document) (md : Metadata) (nl : NodeList) (c : SpdxClass d md nl) :
    ∃ r, rtSPDX d = .ok r ∧ r.nodeList = some
          { nodes := (nl.nodes.filter (·.typ ≠ 1)).map (fun n => packageToNode (packageOf n)) ++
                     (nl.nodes.filter (·.typ ≠ 0)).map (fun n => fileToNode (fileOf n))
            edges := edgesBack nl.edges
            roots := nl.roots } := by
  have hrel : ∀ r ∈ relsOf nl, codecId r.a = r.a ∧ r.a ≠ "" ∧ codecId r.b = r.b ∧ r.b ≠ "" := by
    intro r hr
    rcases List.mem_append.mp hr with h | h
    · obtain ⟨e, he, hr'⟩ := List.mem_flatMap.mp h
      obtain ⟨x, hx, rfl⟩ := List.mem_map.mp hr'
      have h1 := id_stable_of_mem c e.src (c.closedSrc e he)
      have h2 := id_stable_of_mem c x (c.closedDst e he x hx)
      exact ⟨h1.1, h1.2.1, h2.1, h2.2.1⟩
    · obtain ⟨x, hx, rfl⟩ := List.mem_map.mp h
      have h2 := id_stable_of_mem c x (c.roots x hx)
      exact ⟨codecId_of_noPrefix "DOCUMENT" (by decide), (by decide : "DOCUMENT" ≠ ""), h2.1, h2.2.1⟩
  unfold rtSPDX serSPDX
  rw [c.hmd, c.hnl]
  -- the codec is the identity on what the serializer writes for a document of the class
  refine ⟨_, congrArg (·.map unserSPDX) (codecSPDX_id _ ?_ ?_ ?_ hrel), ?_⟩
  · intro cr hcr
    rcases List.mem_cons.mp hcr with rfl | h
    · decide
    · obtain ⟨t, ht, rfl⟩ := List.mem_map.mp h
      exact c.tools t ht
  · intro p hp
    obtain ⟨n, hn, rfl⟩ := List.mem_map.mp hp
    have := List.mem_filter.mp hn
    exact c.pkgs n this.1 (by simpa using this.2)
  · intro f hf
    obtain ⟨n, hn, rfl⟩ := List.mem_map.mp hf
    exact (c.ids n (List.mem_filter.mp hn).1).1
  · rw [unserSPDX_relsOf _ nl rfl (fun r hr => ⟨(hrel r hr).2.1, (hrel r hr).2.2.2⟩)
      fun e he => (id_stable_of_mem c e.src (c.closedSrc e he)).2.2, List.map_map, List.map_map]
    rfl

/-- "the same set of typed edges", for the edge list of `roundtrip_shape` -/
theorem roundtrip_edges (nl : NodeList) (ht : ∀ e ∈ nl.edges, edgeFromSPDX2 (edgeToSPDX2 e.ty) = e.ty)
    (s : String) (t : Int) (x : String) : HasEdgeL (edgesBack nl.edges) s t x ↔ nl.HasEdge s t x :=
  hasEdge_edgesBack nl.edges ht s t x

/-- "the same set of nodes (identifier and package/file kind)", for the node list of `roundtrip_shape`;
    each node once -/
theorem roundtrip_nodes (nl : NodeList) (hk : ∀ n ∈ nl.nodes, n.typ = 0 ∨ n.typ = 1) :
    (((nl.nodes.filter (·.typ ≠ 1)).map (fun n => packageToNode (packageOf n)) ++
      (nl.nodes.filter (·.typ ≠ 0)).map (fun n => fileToNode (fileOf n))).map (fun n => (n.id, n.typ))).Perm
    (nl.nodes.map (fun n => (n.id, n.typ))) := by
  refine (List.Perm.of_eq ?_).trans ((packages_files_perm _ hk).map _)
  rw [List.map_append, List.map_append, List.map_map, List.map_map]
  -- a written-and-read node keeps its identifier; its kind is the one its list stands for
  congr 1
  · refine List.map_congr_left fun n hn => Prod.ext rfl ?_
    have h := List.mem_filter.mp hn
    exact ((hk n h.1).resolve_right (by simpa using h.2)).symm
  · refine List.map_congr_left fun n hn => Prod.ext rfl ?_
    have h := List.mem_filter.mp hn
    exact ((hk n h.1).resolve_left (by simpa using h.2)).symm

/-- names, versions, home URL, licence comments, descriptive texts: returned verbatim -/
theorem package_scalars_preserved (n : Node) :
    (packageToNode (packageOf n)).attr "Name" = some (.str (Node.str n "Name")) ∧
    (packageToNode (packageOf n)).attr "Version" = some (.str (Node.str n "Version")) ∧
    (packageToNode (packageOf n)).attr "FileName" = some (.str (Node.str n "FileName")) ∧
    (packageToNode (packageOf n)).attr "UrlHome" = some (.str (Node.str n "UrlHome")) ∧
    (packageToNode (packageOf n)).attr "SourceInfo" = some (.str (Node.str n "SourceInfo")) ∧
    (packageToNode (packageOf n)).attr "LicenseComments" = some (.str (Node.str n "LicenseComments")) ∧
    (packageToNode (packageOf n)).attr "Comment" = some (.str (Node.str n "Comment")) ∧
    (packageToNode (packageOf n)).attr "Summary" = some (.str (Node.str n "Summary")) ∧
    (packageToNode (packageOf n)).attr "Description" = some (.str (Node.str n "Description")) :=
  have A := rtPkg_attr_at n
  ⟨A 0 rfl, A 1 rfl, A 2 rfl, A 3 rfl, A 9 rfl, A 7 rfl, A 10 rfl, A 11 rfl, A 12 rfl⟩

/-- download location and concluded licence up to the NOASSERTION convention; copyright trimmed -/
theorem package_conventions (n : Node) :
    (packageToNode (packageOf n)).attr "UrlDownload" =
      some (.str (if Node.str n "UrlDownload" = "" then "NOASSERTION" else Node.str n "UrlDownload")) ∧
    (packageToNode (packageOf n)).attr "LicenseConcluded" =
      some (.str (if Node.str n "LicenseConcluded" = "NOASSERTION" then "" else Node.str n "LicenseConcluded")) ∧
    (packageToNode (packageOf n)).attr "Copyright" = some (.str (Str.trimSpace (Node.str n "Copyright"))) :=
  have A := rtPkg_attr_at n
  ⟨A 4 rfl, A 6 rfl, A 8 rfl⟩

/-- dates: preserved to the second -/
theorem package_dates_preserved (n : Node) :
    (packageToNode (packageOf n)).attr "ReleaseDate" = some (dateVal (Node.dateSecs n "ReleaseDate")) ∧
    (packageToNode (packageOf n)).attr "BuildDate" = some (dateVal (Node.dateSecs n "BuildDate")) ∧
    (packageToNode (packageOf n)).attr "ValidUntilDate" = some (dateVal (Node.dateSecs n "ValidUntilDate")) :=
  have A := rtPkg_attr_at n
  ⟨A 16 rfl, A 17 rfl, A 18 rfl⟩

/-- native primary purpose: the first purpose comes back when it is one of the twelve SPDX ones -/
theorem package_purpose_preserved (n : Node) (p : Int) (rest : List Int) (hp : p ∈ spdxPurposes)
    (hn : Node.enums n "PrimaryPurpose" = p :: rest) :
    (packageToNode (packageOf n)).attr "PrimaryPurpose" = some (.enums [p]) := by
  refine (rtPkg_attr_at n 23 rfl).trans (?_ : some (Val.enums _) = _)
  rw [hn, show purposeOut (p :: rest) = purposeOut [p] from rfl, purposes_roundtrip p hp]

/-- files: name, licence texts, comment verbatim; copyright trimmed, and `NONE` when that is empty -/
theorem file_scalars_preserved (n : Node) :
    (fileToNode (fileOf n)).attr "Name" = some (.str (Node.str n "Name")) ∧
    (fileToNode (fileOf n)).attr "LicenseConcluded" = some (.str (Node.str n "LicenseConcluded")) ∧
    (fileToNode (fileOf n)).attr "LicenseComments" = some (.str (Node.str n "LicenseComments")) ∧
    (fileToNode (fileOf n)).attr "Comment" = some (.str (Node.str n "Comment")) ∧
    (fileToNode (fileOf n)).attr "Copyright" =
      some (.str (if Str.trimSpace (Node.str n "Copyright") = "" then "NONE" else Str.trimSpace (Node.str n "Copyright"))) :=
  have A := rtFile_attr_at n
  ⟨A 0 rfl, A 6 rfl, A 7 rfl, A 10 rfl, A 8 rfl⟩

/-- one checksum of a shared algorithm reads back under the same algorithm with the same value -/
theorem checksum_entry_preserved (k : Int) (v : String) (hk : k ∈ spdxHashes) :
    hashesOfChecksums [{ algo := hashToSPDX k, value := v }] = [(k, v)] := by
  have h := hash_algos_roundtrip k hk
  rw [hashesOfChecksums, List.foldl_cons, List.foldl_nil]
  simp only [h.1, if_neg h.2.1]
  rfl

/-- one identifier (purl, CPE 2.2, CPE 2.3, gitoid) reads back under the same key -/
theorem identifier_entry_preserved (k : Int) (v : String) (hk : k ∈ [1, 2, 3, 4]) :
    refsIn [{ category := identCategory k, refType := identType k, locator := v }] = ([], [(k, v)]) := by
  simpa [idOut, refsIn_eq_fold, mapStore] using refsInStep_id ([], []) (k, v) hk

/-- one external reference of an SPDX-expressible type reads back with type, URL and comment -/
theorem extref_entry_preserved (t : Int) (u c : String) (ht : t ∈ spdxRefTypes) :
    refsIn [{ category := refCategory t, refType := refType t, locator := u, comment := c }] =
      ([{ url := u, typ := t, comment := c }], []) := by
  simpa [refOut, refsIn_eq_fold] using refsInStep_ref ([], []) { url := u, typ := t, comment := c } ht

/-- first supplier: what is written for it reads back as one person named `clientString p` (the name,
    followed by the e-mail in parentheses if there is one) with the same organisation flag and every
    other field empty. `originator_preserved` is the same for the first originator. -/
theorem supplier_preserved (n : Node) (p : Person) (rest : List Person)
    (hs : Node.persons n "Suppliers" = p :: rest) (hne : clientString p ≠ "NOASSERTION") :
    (packageToNode (packageOf n)).attr "Suppliers" =
      some (.persons [Person.mk (clientString p) (clientOrg p = "Organization") "" "" "" []]) := by
  refine (rtPkg_attr_at n 14 rfl).trans (?_ : some (Val.persons _) = _)
  rw [hs]
  simp [supplierPersons, agentOf, agentPerson, hne]

theorem originator_preserved (n : Node) (p : Person) (rest : List Person)
    (hs : Node.persons n "Originators" = p :: rest) (hne : clientString p ≠ "NOASSERTION")
    (hne' : clientString p ≠ "") :
    (packageToNode (packageOf n)).attr "Originators" =
      some (.persons [Person.mk (clientString p) (clientOrg p = "Organization") "" "" "" []]) := by
  refine (rtPkg_attr_at n 15 rfl).trans (?_ : some (Val.persons _) = _)
  rw [hs]
  simp [originatorPersons, agentOf, agentPerson, hne, hne']

/-- "a second write-then-read pass changes nothing further", for the edge list: edges that came back
    (all single-target) come back as the same list. The clause is proved only in PART: besides this,
    node by node (`second_pass_package_node`, `second_pass_file_node` below); that the tools-golang
    codec is again the identity on a whole document that came back is left to stream `spdx`
    (operation `spdxRT2`) and its oracle. -/
theorem second_pass_edges_partial (es : List Edge)
    (ht : ∀ e ∈ es, edgeFromSPDX2 (edgeToSPDX2 e.ty) = e.ty) :
    edgesBack (edgesBack es) = edgesBack es := by
  unfold edgesBack edgeRels
  simp only [List.map_flatMap, List.map_map, List.flatMap_assoc, List.flatMap_map]
  -- edge by edge: a single-target edge is written as one relationship and read back as itself
  refine flatMap_congr' fun e he => ?_
  simp [Function.comp_def, ht e he, List.map_eq_flatMap]

def exA : Node := { id := "a", typ := 0, attrs := Schema.nodeAttrs.map (fun fk => fk.2.zero) }
def exB : Node := { id := "b", typ := 1, attrs := Schema.nodeAttrs.map (fun fk => fk.2.zero) }
def exNL : NodeList :=
  { nodes := [exA, exB]
    edges := [{ ty := 5, src := "a", tos := ["b", "a"] }, { ty := 10, src := "b", tos := ["a"] }]
    roots := ["a", "b"] }

/-- non-vacuity: a cyclic document with a self-loop, a package, a file and two roots is in the class -/
example : SpdxClass { metadata := some { id := "x" }, nodeList := some exNL } { id := "x" } exNL := by
  have ha : codecId "a" = "a" := codecId_of_noPrefix "a" (by decide)
  have hb : codecId "b" = "b" := codecId_of_noPrefix "b" (by decide)
  have hattr : ∀ f k, (f, k) ∈ Schema.nodeAttrs → exA.attr f = some k.zero := fun f k h =>
    attr_of_schema_map (fun _ k => k.zero) "a" 0 f k h
  have h1 : Node.persons exA "Suppliers" = [] := Node.persons_of_attr (hattr _ .persons (schema_at 14 rfl))
  have h2 : Node.persons exA "Originators" = [] := Node.persons_of_attr (hattr _ .persons (schema_at 15 rfl))
  have h3 : Node.refs exA "ExternalReferences" = [] := Node.refs_of_attr (hattr _ .refs (schema_at 19 rfl))
  have h4 : exA.identifiers = [] := Node.mapAttr_of_attr (hattr _ .imap (schema_at 21 rfl))
  have h5 : sortedByKey ([] : List (Int × String)) = [] := by simp [sortedByKey, sortInts]
  exact {
    hmd := rfl
    hnl := rfl
    tools := by simp
    kinds := by simp [exNL, exA, exB]
    ids := by simp [exNL, exA, exB, ha, hb]
    closedSrc := by simp [exNL, exA, exB, NodeList.ids]
    closedDst := by simp [exNL, exA, exB, NodeList.ids]
    roots := by simp [exNL, exA, exB, NodeList.ids]
    types := by
      intro e he
      simp only [exNL, List.mem_cons, List.not_mem_nil, or_false] at he
      rcases he with rfl | rfl
      · exact edge_types_roundtrip ("contains", 5) (List.mem_of_getElem? (i := 5) rfl) (by decide)
      · exact edge_types_roundtrip ("dependsOn", 10) (List.mem_of_getElem? (i := 10) rfl) (by decide)
    pkgs := by
      intro n hn hne
      simp only [exNL, List.mem_cons, List.not_mem_nil, or_false] at hn
      rcases hn with rfl | rfl
      · simp [codecPackage, packageOf, optOutcome, Outcome.bind, Outcome.map, h1, h2, h3, h4, h5]
        exact ha
      · simp [exB] at hne }

/-- a hash map over the sixteen shared algorithms comes back with exactly its entries (in key
    order), whatever its size -/
theorem all_hashes_preserved (n : Node) (hk : ∀ kv ∈ n.hashes, kv.1 ∈ spdxHashes) (hnd : (n.hashes.map (·.1)).Nodup) :
    (packageToNode (packageOf n)).attr "Hashes" = some (.imap (sortedByKey n.hashes)) ∧
    (sortedByKey n.hashes).Perm n.hashes := by
  refine ⟨?_, sortedByKey_perm_self n.hashes hnd⟩
  rw [← hashes_roundtrip n hk hnd]
  exact rtPkg_attr_at n 22 rfl

/-- any number of references of the eight SPDX-expressible types (with a URL) and an identifier
    map over purl / CPE 2.2 / CPE 2.3 / gitoid: every reference comes back with type, URL and comment,
    in order, and every identifier under its key -/
theorem all_references_and_identifiers_preserved (n : Node)
    (hr : ∀ e ∈ Node.refs n "ExternalReferences", e.typ ∈ spdxRefTypes ∧ e.url ≠ "")
    (hk : ∀ kv ∈ n.identifiers, kv.1 ∈ [1, 2, 3, 4]) (hnd : (n.identifiers.map (·.1)).Nodup) :
    (packageToNode (packageOf n)).attr "ExternalReferences" =
      some (.refs ((Node.refs n "ExternalReferences").map (fun e => { url := e.url, typ := e.typ, comment := e.comment }))) ∧
    (packageToNode (packageOf n)).attr "Identifiers" = some (.imap (sortedByKey n.identifiers)) := by
  have h := refsIn_packageOf n hr hk hnd
  rw [← h.1, ← h.2]
  exact ⟨rtPkg_attr_at n 19 rfl, rtPkg_attr_at n 21 rfl⟩

/-- **a second write-then-read pass changes nothing further, package node by package node**: for a
    node whose hashes, references and identifiers are in the SPDX-expressible class, writing the
    node that came back and reading it again (`rtPkg`: serializer and parser, without the
    tools-golang codec between them) gives the same node — every attribute of the schema -/
theorem second_pass_package_node (n : Node) (c : SpdxPkgNode n) : rtPkg (rtPkg n) = rtPkg n := by
  have A := rtPkg_attr_at n
  have hr := refsIn_packageOf n (fun e he => ⟨(c.refs e he).1, (c.refs e he).2.1⟩) c.ik c.ind
  have hre := (Node.refs_of_attr (A 19 rfl)).trans hr.1
  have hi : (rtPkg n).identifiers = _ := (Node.mapAttr_of_attr (A 21 rfl)).trans hr.2
  have S {f s} (h : (rtPkg n).attr f = some (.str s)) : Node.str (rtPkg n) f = s := Node.str_of_attr h
  have D {f d} (h : (rtPkg n).attr f = some (dateVal d)) : Node.dateSecs (rtPkg n) f = d := Node.dateSecs_of_attr h
  have P {f l} (h : (rtPkg n).attr f = some (.persons l)) : Node.persons (rtPkg n) f = l := Node.persons_of_attr h
  have hs := checksumsOf_sorted (rtPkg_hashes n c.hk c.hnd) c.hnd
  -- what came back is written with the same reference list (the fields that were dropped are not written)
  have hx : (packageOf (rtPkg n)).extRefs = (packageOf n).extRefs := by
    simp only [packageOf, hre, hi, sortedByKey_idem _ c.ind, List.filter_map, List.map_map, Function.comp_def]
  -- row by row: every read of `rtPkg n` is a row of `rtPkgVals n`, and the conventions are idempotent
  refine (rtPkg_eq _).trans (.trans (congrArg (Node.mk n.id 0) ?_) (rtPkg_eq n).symm)
  simp only [rtPkgVals, hx, hs, S (A 0 rfl), S (A 1 rfl), S (A 2 rfl), S (A 3 rfl), S (A 4 rfl), S (A 6 rfl), S (A 7 rfl),
    S (A 8 rfl), S (A 9 rfl), S (A 10 rfl), S (A 11 rfl), S (A 12 rfl), Node.strs_of_attr (A 13 rfl), P (A 14 rfl), P (A 15 rfl),
    D (A 16 rfl), D (A 17 rfl), D (A 18 rfl), Node.enums_of_attr (A 23 rfl),
    sentinel_fix (show "NOASSERTION" ≠ "" by decide), sentinel_fix (show "" ≠ "NOASSERTION" by decide),
    Str.trimSpace_idem, purposeIn_fix, supplier_fix, originator_fix]

/-- the same for file nodes: names, licence texts, comments, file types, the trimmed copyright with
    its `NONE` convention and the hash map are fixpoints of a second pass -/
theorem second_pass_file_node (n : Node) (hk : ∀ kv ∈ n.hashes, kv.1 ∈ spdxHashes) (hnd : (n.hashes.map (·.1)).Nodup) :
    rtFile (rtFile n) = rtFile n := by
  have A := rtFile_attr_at n
  have S {f s} (h : (rtFile n).attr f = some (.str s)) : Node.str (rtFile n) f = s := Node.str_of_attr h
  have hs := checksumsOf_sorted ((Node.mapAttr_of_attr (A 22 rfl)).trans (hashes_roundtrip n hk hnd)) hnd
  refine (rtFile_eq _).trans (.trans (congrArg (Node.mk n.id 1) ?_) (rtFile_eq n).symm)
  simp only [rtFileVals, hs, S (A 0 rfl), S (A 6 rfl), S (A 7 rfl), S (A 8 rfl), S (A 10 rfl), Node.strs_of_attr (A 20 rfl), fileCopyright_idem]

/-- non-vacuity: a package with two hashes, a purl and a CPE is in the class -/
example : SpdxPkgNode { id := "a", typ := 0, attrs := Schema.nodeAttrs.map (fun fk =>
      if fk.1 = "Hashes" then .imap [(3, "aa"), (1, "bb")] else if fk.1 = "Identifiers" then .imap [(1, "pkg:x/y"), (3, "cpe:2.3:a")]
      else fk.2.zero) } := by
  refine ⟨by decide, by decide, by decide, by decide, by decide⟩

end Protobom.C01
