/-
  C02 — CycloneDX write-then-read round trip preserves components and containment.

  The enum tables per spec version; the parser half and the serializer half of the round trip on
  containment forests and their composition (`roundtrip_forest*`, `roundtrip_same_node_set`,
  `roundtrip_nodes`: projections of `ForestDoc.rt`, Proofs/RtForest.lean), with a worked document;
  what the attributes of a node that comes back are (`node_*`, from `rtNode_attrs`,
  Proofs/CdxAttrs.lean); the second pass (Proofs/CdxSecond.lean).
-/
import Protobom.Proofs.RtForest
import Protobom.Proofs.CdxSecond

namespace Protobom.C02
open Protobom Protobom.Cdx Gen

theorem twelve_hash_algorithms : cdxHashes.length = 12 := by decide

theorem hash_algorithms_survive :
    ∀ a ∈ cdxHashes, (hashOut a).map hashFromCDX = some a ∧ (hashOut a).map hashIn = some a ∧ a ≠ 0 :=
  cdx_hash_roundtrip

theorem component_types_survive_15 :
    ∀ p ∈ nativePurposes15, (purposeOut p).map (fun t => purposeIn (if supportsType 5 t then t else "application")) = some p := by
  decide +kernel

theorem component_types_survive_14 :
    ∀ p ∈ nativePurposes14, (purposeOut p).map (fun t => purposeIn (if supportsType 4 t then t else "application")) = some p := by
  decide +kernel

theorem file_kind_survives : purposeIn "file" = 12 ∧ supportsType 4 "file" = true ∧ supportsType 5 "file" = true := by
  decide

theorem reference_types_survive (v : Nat) :
    ∀ t ∈ refTypesAll, refTypeIn (convRef v { typ := refTypeOut t }).typ = t := reftypes_roundtrip_all v

theorem reference_types_survive_15 :
    ∀ t ∈ refTypes15only, refTypeIn (convRef 5 { typ := refTypeOut t }).typ = t := by decide +kernel

theorem lifecycle_types_survive :
    ∀ t ∈ [1, 2, 3, 4, 5, 7, 8], (Tables.cdxPhaseOut.lookup t).bind phaseIn = some t := by decide

/-- the parser attaches the node list of a component's sub-components with `RelateNodeListAtID`:
    what that does to edges (and, `graft_nodes`, to nodes) -/
theorem graft_edges (a b : NodeList) (anchor : String) (ty : Int) (r : NodeList)
    (h : a.relateNodeListAtID b anchor ty = some r) (s : String) (t : Int) (d : String) :
    r.HasEdge s t d ↔ a.HasEdge s t d ∨ ((s, t) = (anchor, ty) ∧ d ∈ b.roots) ∨ b.HasEdge s t d :=
  relateNodeListAtID_edges h s t d

theorem graft_nodes (a b : NodeList) (anchor : String) (ty : Int) (r : NodeList)
    (h : a.relateNodeListAtID b anchor ty = some r) (x : String) : x ∈ r.ids ↔ x ∈ a.ids ∨ x ∈ b.ids :=
  relateNodeListAtID_ids a b anchor ty r h x

/-- parser half: nested components come back as exactly the containment edges of the component
    tree, whatever the depth -/
theorem parser_returns_tree (b : Bom) (rootC : Component) (hm : b.metaComponent = some rootC)
    (hne : ∀ x ∈ rootC.refs ++ refsL b.components, x ≠ "")
    (hnd : (rootC.refs ++ refsL b.components).Nodup) :
    ∃ nl, (unserCDX b).nodeList = some nl ∧ nl.ids = rootC.refs ++ refsL b.components ∧
      nl.roots = [rootC.bomRef] ∧
      ∀ s t d, nl.HasEdge s t d ↔ t = 5 ∧
        (ChildIn rootC s d ∨ (s = rootC.bomRef ∧ d ∈ b.components.map Component.bomRef) ∨ ChildInL b.components s d) :=
  let ⟨nl, h1, _, h2, h3, h4⟩ := unserCDX_full b rootC hm hne hnd
  ⟨nl, h1, h2, h3, h4⟩

/-- parser half of "serial number and numeric version are preserved": read as they stand in the BOM -/
theorem serial_and_version (b : Bom) :
    ((unserCDX b).metadata.map (·.id)) = some b.serial ∧
    ((unserCDX b).metadata.map (·.version)) = some (toString b.version) := by
  simp [unserCDX]

/-- non-vacuity: a three-level tree with distinct references meets the hypotheses of `parser_returns_tree` -/
example :
    let leaf (r : String) : Component := .mk r "library" "" "" "" "" "" "" none [] [] none []
    let mid : Component := .mk "m" "library" "" "" "" "" "" "" none [] [] none [leaf "x", leaf "y"]
    let root : Component := .mk "r" "application" "" "" "" "" "" "" none [] [] none []
    (∀ x ∈ root.refs ++ refsL [mid, leaf "z"], x ≠ "") ∧ (root.refs ++ refsL [mid, leaf "z"]).Nodup := by
  simp [Component.refs, refsL]

end Protobom.C02

namespace Protobom.C02
open Protobom Protobom.Cdx

/-- **serializer half, containment forests of any depth and fan-out**: if the containment recorded
    by the first pass (edges in ANY stored order) is a forest below known nodes and the document has
    one root element, then the serializer succeeds, the top-level components are exactly the nodes
    that are neither the root nor contained in a non-root node, and each of them carries its
    COMPLETE subtree (`T`: the node's component with the subtrees of all its children nested, to any
    depth) — whatever the order in which the nesting pass (the serializer's second loop, over the
    node list) visits the nodes. `roundtrip_forest` composes this with `parser_returns_tree`. -/
theorem serializer_builds_forest (d : Document) (md : Metadata) (nl : NodeList) (root : String) (rootNode : Node)
    (lcs : List Lifecycle) (p1 : Pass1) (ht : String → Nat) (dflt : Component)
    (hmd : d.metadata = some md) (hnl : d.nodeList = some nl) (hroots : nl.roots = [root])
    (hroot : nl.getNodeByID root = some rootNode) (hrid : rootNode.id = root)
    (hlc : serCDX.mapLifecycles md.docTypes = .ok lcs)
    (hp1 : pass1 (fun id => (dictOf nl.nodes).any (·.1 = id)) nl.edges = .ok p1)
    (F : Forest (childrenOf p1) ht (fun x => ((dictOf nl.nodes).lookup x).isSome = true) [root])
    (hht : ∀ x, ht x < (dictOf nl.nodes).length + 2) :
    ∃ (b : Bom) (placed : List String), serCDX d = .ok b ∧
      (∀ x, x ∈ placed ↔ (x = root ∨ ∃ p, p ≠ root ∧ ((dictOf nl.nodes).lookup p).isSome = true ∧ x ∈ childrenOf p1 p)) ∧
      b.components = clearAutoL (((dictOf nl.nodes).filter (fun kv => decide (kv.1 ∉ placed))).map
        (fun kv => T (childrenOf p1) (fun x => ((dictOf nl.nodes).lookup x).getD dflt) ht kv.1)) ∧
      b.deps = p1.deps ∧
      b.metaComponent = some (if md.name ≠ "" ∧ (nodeToComponent rootNode).name = ""
        then (nodeToComponent rootNode).withName md.name else nodeToComponent rootNode) :=
  serCDX_forest ⟨hmd, hnl, hroots, hroot, hrid, hlc, hp1, F, hht⟩ dflt

theorem nest_builds_complete_subtrees (children : String → List String) (c0 : String → Component) (ht : String → Nat)
    (D : String → Prop) (P0 : List String) (F : Forest children ht D P0) (fuel : Nat) (id : String)
    (path : List String) (st : NestSt) (hg : Good children c0 ht D P0 path st) (hD : D id) (hf : ht id < fuel)
    (hp : id ∉ path) (hph : ∀ a ∈ path, ht id < ht a) :
    NestPost children c0 ht D P0 path id st (nest children fuel id path st) :=
  nest_spec children c0 ht D P0 F fuel id path st hg hD hf hp hph

/-- **the round trip on containment forests, both halves composed**: for a document with one root
    element whose containment (edges stored in any order) is a forest below known nodes with
    non-empty identifiers that do not look generated, writing as CycloneDX 1.`v` and reading the
    result back succeeds and gives a node list whose identifiers are the root followed by the
    preorder of the top-level subtrees (the nodes that are neither the root nor contained in a
    non-root node, each with everything below it), whose only root element is the root, and whose
    edges are exactly: the root contains every top-level node; every other node contains exactly
    the nodes the document says it contains. The premise that this enumeration has no repetition
    is not needed: it holds in every containment forest (`forest_preorder_nodup`), and
    `roundtrip_forest_closed` is the same statement without it. -/
theorem roundtrip_forest (v : Nat) (d : Document) (md : Metadata) (nl : NodeList) (root : String) (rootNode : Node)
    (lcs : List Lifecycle) (p1 : Pass1) (ht : String → Nat)
    (hmd : d.metadata = some md) (hnl : d.nodeList = some nl) (hroots : nl.roots = [root])
    (hroot : nl.getNodeByID root = some rootNode) (hrid : rootNode.id = root)
    (hlc : serCDX.mapLifecycles md.docTypes = .ok lcs)
    (hp1 : pass1 (fun id => (dictOf nl.nodes).any (·.1 = id)) nl.edges = .ok p1)
    (F : Forest (childrenOf p1) ht (fun x => ((dictOf nl.nodes).lookup x).isSome = true) [root])
    (hht : ∀ x, ht x < (dictOf nl.nodes).length + 2)
    (hids : ∀ x, ((dictOf nl.nodes).lookup x).isSome = true → x ≠ "" ∧ isAutoRef x = false) :
    ∃ placed : List String,
      (∀ x, x ∈ placed ↔ (x = root ∨ ∃ p, p ≠ root ∧ ((dictOf nl.nodes).lookup p).isSome = true ∧ x ∈ childrenOf p1 p)) ∧
      let tops := ((dictOf nl.nodes).filter (fun kv => decide (kv.1 ∉ placed))).map (·.1)
      let preT := fun t => pre (childrenOf p1) (ht t + 1) t
      (root :: tops.flatMap preT).Nodup →
      ∃ d' nl', rtCDX v d = .ok d' ∧ d'.nodeList = some nl' ∧
        nl'.ids = root :: tops.flatMap preT ∧ nl'.roots = [root] ∧
        ∀ s t x, nl'.HasEdge s t x ↔ t = 5 ∧
          ((s = root ∧ x ∈ tops) ∨ ((∃ t' ∈ tops, s ∈ preT t') ∧ x ∈ childrenOf p1 s)) := by
  have H := ForestDoc.mk hmd hnl hroots hroot hrid hlc hp1 F hht
  obtain ⟨d', nl', h1, h2, _, h4, h5, h6⟩ := H.rt v hids
  exact ⟨_, H.mem_nested, fun _ => ⟨d', nl', h1, h2, h4, h5, fun s t x =>
    (h6 s t x).trans (and_congr Iff.rfl (or_congr Iff.rfl (and_congr List.mem_flatMap Iff.rfl)))⟩⟩

/-- `roundtrip_forest` without its enumeration premise, and with the identifiers that come back
    distinct as a conclusion -/
theorem roundtrip_forest_closed (v : Nat) (d : Document) (md : Metadata) (nl : NodeList) (root : String) (rootNode : Node)
    (lcs : List Lifecycle) (p1 : Pass1) (ht : String → Nat)
    (hmd : d.metadata = some md) (hnl : d.nodeList = some nl) (hroots : nl.roots = [root])
    (hroot : nl.getNodeByID root = some rootNode) (hrid : rootNode.id = root)
    (hlc : serCDX.mapLifecycles md.docTypes = .ok lcs)
    (hp1 : pass1 (fun id => (dictOf nl.nodes).any (·.1 = id)) nl.edges = .ok p1)
    (F : Forest (childrenOf p1) ht (fun x => ((dictOf nl.nodes).lookup x).isSome = true) [root])
    (hht : ∀ x, ht x < (dictOf nl.nodes).length + 2)
    (hids : ∀ x, ((dictOf nl.nodes).lookup x).isSome = true → x ≠ "" ∧ isAutoRef x = false) :
    ∃ (placed : List String) (d' : Document) (nl' : NodeList),
      (∀ x, x ∈ placed ↔ (x = root ∨ ∃ p, p ≠ root ∧ ((dictOf nl.nodes).lookup p).isSome = true ∧ x ∈ childrenOf p1 p)) ∧
      rtCDX v d = .ok d' ∧ d'.nodeList = some nl' ∧ nl'.roots = [root] ∧ nl'.ids.Nodup ∧
      nl'.ids = root :: (((dictOf nl.nodes).filter (fun kv => decide (kv.1 ∉ placed))).map (·.1)).flatMap
          (fun t => pre (childrenOf p1) (ht t + 1) t) ∧
      ∀ s t x, nl'.HasEdge s t x ↔ t = 5 ∧
        ((s = root ∧ x ∈ ((dictOf nl.nodes).filter (fun kv => decide (kv.1 ∉ placed))).map (·.1)) ∨
         ((∃ t' ∈ ((dictOf nl.nodes).filter (fun kv => decide (kv.1 ∉ placed))).map (·.1),
            s ∈ pre (childrenOf p1) (ht t' + 1) t') ∧ x ∈ childrenOf p1 s)) := by
  obtain ⟨placed, hpl, h⟩ :=
    roundtrip_forest v d md nl root rootNode lcs p1 ht hmd hnl hroots hroot hrid hlc hp1 F hht hids
  have hnd := forest_preorder_nodup (childrenOf p1) ht root (dictOf nl.nodes) F placed hpl (dictOf_keys_nodup nl.nodes)
  obtain ⟨d', nl', h1, h2, h4, h5, h6⟩ := h hnd
  exact ⟨placed, d', nl', hpl, h1, h2, h5, h4 ▸ hnd, h4, h6⟩

/-! ### non-vacuity of the forest hypotheses: root r contains a, a contains b -/

def exNode (id : String) : Node := { id := id, typ := 0, attrs := Gen.Schema.nodeAttrs.map (fun fk => fk.2.zero) }
def exNL3 : NodeList :=
  { nodes := [exNode "b", exNode "r", exNode "a"],
    edges := [{ ty := 5, src := "a", tos := ["b"] }, { ty := 5, src := "r", tos := ["a"] }], roots := ["r"] }
def exP1 : Pass1 := { children := [("a", ["b"]), ("r", ["a"])], deps := [] }
def exHt (x : String) : Nat := if x = "r" then 2 else if x = "a" then 1 else 0

theorem ex_pass1 : pass1 (fun id => (dictOf exNL3.nodes).any (·.1 = id)) exNL3.edges = .ok exP1 := by rfl

theorem ex_forest : Forest (childrenOf exP1) exHt (fun x => ((dictOf exNL3.nodes).lookup x).isSome = true) ["r"] := by
  have hch : ∀ x, childrenOf exP1 x = if x = "a" then ["b"] else if x = "r" then ["a"] else [] := by
    intro x
    by_cases ha : x = "a"
    · subst ha; rfl
    · by_cases hr : x = "r"
      · subst hr; rfl
      · rw [if_neg ha, if_neg hr]
        simp only [childrenOf, exP1, List.lookup_cons, List.lookup_nil, beq_false_of_ne ha, beq_false_of_ne hr]
        rfl
  have ex_child : ∀ {id t : String}, t ∈ childrenOf exP1 id → (id = "a" ∧ t = "b") ∨ (id = "r" ∧ t = "a") := by
    intro id t h
    rw [hch] at h
    split at h
    · exact Or.inl ⟨‹_›, List.mem_singleton.mp h⟩
    · split at h
      · exact Or.inr ⟨‹_›, List.mem_singleton.mp h⟩
      · cases h
  refine ⟨fun id t h => ?_, fun a b t h1 h2 => ?_, fun a => ?_, fun id t _ h => ?_, fun id t h => ?_⟩
  · rcases ex_child h with ⟨rfl, rfl⟩ | ⟨rfl, rfl⟩ <;> decide
  · rcases ex_child h1 with ⟨rfl, rfl⟩ | ⟨rfl, rfl⟩ <;> rcases ex_child h2 with ⟨rfl, h⟩ | ⟨rfl, h⟩ <;>
      first | rfl | exact absurd h (by decide)
  · rw [hch]; repeat' split
    all_goals simp
  · rcases ex_child h with ⟨rfl, rfl⟩ | ⟨rfl, rfl⟩ <;> decide
  · rcases ex_child h with ⟨rfl, rfl⟩ | ⟨rfl, rfl⟩ <;> decide

def exMd : Metadata := { id := "urn:uuid:1", version := "1" }
def exDoc : Document := { metadata := some exMd, nodeList := some exNL3 }

/-- the premises of `roundtrip_forest_closed` are met by a three-level document whose edges are
    stored bottom-up, and its conclusion follows for it -/
example : ∃ (d' : Document) (nl' : NodeList),
    rtCDX 5 exDoc = .ok d' ∧ d'.nodeList = some nl' ∧ nl'.roots = ["r"] ∧ nl'.ids.Nodup ∧
    nl'.HasEdge "a" 5 "b" := by
  have hlen : (dictOf exNL3.nodes).length = 3 := by rfl
  obtain ⟨placed, d', nl', hpl, h1, h2, h3, h4, _, h6⟩ :=
    roundtrip_forest_closed 5 exDoc exMd exNL3 "r" (exNode "r") [] exP1 exHt rfl rfl rfl (by rfl) rfl (by rfl)
      ex_pass1 ex_forest
      (by
        intro x
        rw [hlen]
        unfold exHt
        by_cases h : x = "r"
        · simp [h]
        · by_cases h' : x = "a" <;> simp [h, h'])
      (by
        intro x hx
        have := (dictOf_known exNL3.nodes x).mp hx
        simp only [exNL3, exNode, List.map_cons, List.map_nil, List.mem_cons, List.not_mem_nil, or_false] at this
        rcases this with rfl | rfl | rfl <;> decide)
  refine ⟨d', nl', h1, h2, h3, h4, ?_⟩
  rw [h6]
  refine ⟨rfl, Or.inr ⟨?_, ?_⟩⟩
  · -- "a" is a top-level node: it is not nested (its only container is the root)
    refine ⟨"a", ?_, ?_⟩
    · rw [List.mem_map]
      refine ⟨("a", nodeToComponent (exNode "a")), ?_, rfl⟩
      rw [List.mem_filter]
      refine ⟨List.mem_of_getElem? (i := 2) (by rfl), ?_⟩
      simp only [decide_eq_true_eq]
      intro hmem
      rcases (hpl "a").mp hmem with h | ⟨p, hp, _, hc⟩
      · exact absurd h (by decide)
      · exact hp (ex_forest.par p "r" "a" hc (by decide))
    · simp [pre, exHt]
  · decide

end Protobom.C02

namespace Protobom.C02
open Protobom Protobom.Cdx Gen

/-! ### per-node attributes across the codec (`rtNode v n`: node `n` written as a component,
    converted for CycloneDX 1.`v`, read back) -/

/-- name, description, copyright: verbatim at every version; the version string verbatim from
    1.4 on, and at 1.3 whenever it is not empty (cyclonedx-go fills `0.0.0` in there) -/
theorem node_scalars_preserved (v : Nat) (n : Node) :
    (rtNode v n).attr "Name" = some (.str (Spdx.Node.str n "Name")) ∧
    (rtNode v n).attr "Description" = some (.str (Spdx.Node.str n "Description")) ∧
    (rtNode v n).attr "Copyright" = some (.str (Spdx.Node.str n "Copyright")) ∧
    (rtNode v n).attr "Version" =
      some (.str (if v < 4 ∧ Spdx.Node.str n "Version" = "" then "0.0.0" else Spdx.Node.str n "Version")) := by
  obtain ⟨hName, hVer, hDesc, hCp, hLic, hPur, hRefs, hIds, hHs⟩ := rtNode_attrs v n
  exact ⟨hName, hDesc, hCp, hVer⟩

theorem node_id_preserved (v : Nat) (n : Node) (h : n.id ≠ "") : (rtNode v n).id = n.id := rtNode_id v n h

/-- file kind: a FILE node comes back as a FILE node with the FILE purpose, at every version -/
theorem file_kind_preserved (v : Nat) (n : Node) (h : n.typ = 1) :
    (rtNode v n).typ = 1 ∧ (rtNode v n).attr "PrimaryPurpose" = some (.enums [12]) := by
  have h1 : supportsType v "file" = true := by simp [supportsType]
  have h2 : purposeIn "file" = 12 := file_kind_survives.1
  constructor
  · simp [rtNode, nodeToComponent, convComp, componentToNode, h, h1, h2]
  · obtain ⟨_, _, _, _, _, hPur, _⟩ := rtNode_attrs v n
    rw [hPur]; simp [h, h1, h2]

/-- native component type at 1.5: a package node whose first purpose is one of the eleven native
    ones keeps exactly that purpose and stays a package -/
theorem component_type_preserved_15 (n : Node) (p : Int) (rest : List Int) (h : n.typ ≠ 1)
    (hp : p ∈ nativePurposes15) (hn : Spdx.Node.enums n "PrimaryPurpose" = p :: rest) :
    (rtNode 5 n).typ = 0 ∧ (rtNode 5 n).attr "PrimaryPurpose" = some (.enums [p]) :=
  rtNode_native_type 5 _ component_types_survive_15 (by decide) n p rest h hp hn

/-- the same at 1.4, for the seven types that version has -/
theorem component_type_preserved_14 (n : Node) (p : Int) (rest : List Int) (h : n.typ ≠ 1)
    (hp : p ∈ nativePurposes14) (hn : Spdx.Node.enums n "PrimaryPurpose" = p :: rest) :
    (rtNode 4 n).typ = 0 ∧ (rtNode 4 n).attr "PrimaryPurpose" = some (.enums [p]) :=
  rtNode_native_type 4 _ component_types_survive_14 (by decide) n p rest h hp hn

/-- hashes: a hash map over the twelve CycloneDX algorithms comes back with exactly its entries
    (in key order), whatever its size -/
theorem node_hashes_preserved (v : Nat) (n : Node) (hk : ∀ kv ∈ n.hashes, kv.1 ∈ cdxHashes)
    (hnd : (n.hashes.map (·.1)).Nodup) :
    (rtNode v n).attr "Hashes" = some (.imap (sortedByKey n.hashes)) ∧ (sortedByKey n.hashes).Perm n.hashes := by
  obtain ⟨hName, hVer, hDesc, hCp, hLic, hPur, hRefs, hIds, hHs⟩ := rtNode_attrs v n
  exact ⟨compHashes_hashesOut n.hashes hk hnd ▸ hHs, sortedByKey_perm_self n.hashes hnd⟩

/-- software identifiers: the purl comes back under key 1; a CPE 2.3 string under key 3 and any
    other CPE string under key 2 (CycloneDX has one `cpe` member: 2.3 wins when both are present) -/
theorem node_identifiers_preserved (v : Nat) (n : Node) :
    (rtNode v n).attr "Identifiers" = some (.imap (compIds ((n.identifiers.lookup 1).getD "")
      ((n.identifiers.lookup 3).getD ((n.identifiers.lookup 2).getD "")))) := by
  obtain ⟨hName, hVer, hDesc, hCp, hLic, hPur, hRefs, hIds, hHs⟩ := rtNode_attrs v n
  exact hIds

theorem identifiers_read_back (purl cpe : String) :
    (compIds purl cpe).lookup 1 = (if purl = "" then none else some purl) ∧
    (compIds purl cpe).lookup 3 = (if cpe ≠ "" ∧ Str.hasPrefix cpe "cpe:2.3" = true then some cpe else none) ∧
    (compIds purl cpe).lookup 2 = (if cpe ≠ "" ∧ Str.hasPrefix cpe "cpe:2.3" = false then some cpe else none) := by
  simp only [compIds]
  by_cases h1 : cpe = "" <;> by_cases h2 : purl = "" <;> by_cases h3 : Str.hasPrefix cpe "cpe:2.3" = true <;>
    simp [h1, h2, h3, List.lookup]

/-- licence list: the first non-empty entry comes back, alone (CycloneDX carries the list, the
    reader stops at the first usable entry: known finding KF-C02-licence-truncation); so lists of
    at most one licence, not the empty string, are preserved exactly -/
theorem node_licenses_first (v : Nat) (n : Node) :
    (rtNode v n).attr "Licenses" = some (.strs (match (Spdx.Node.strs n "Licenses").find? (· ≠ "") with
      | some l => [l] | none => [])) := by
  obtain ⟨hName, hVer, hDesc, hCp, hLic, hPur, hRefs, hIds, hHs⟩ := rtNode_attrs v n
  exact hLic

theorem node_single_license_preserved (v : Nat) (n : Node) (l : String) (hl : l ≠ "")
    (h : Spdx.Node.strs n "Licenses" = [l]) : (rtNode v n).attr "Licenses" = some (.strs [l]) := by
  rw [node_licenses_first, h]; simp [hl]

/-- external references: one per reference, in order, with URL and comment verbatim, the type
    through the two tables and the version conversion, the hashes through the hash tables -/
theorem node_references (v : Nat) (n : Node) :
    (rtNode v n).attr "ExternalReferences" = some (.refs ((Spdx.Node.refs n "ExternalReferences").map (fun r =>
      ({ url := r.url, comment := r.comment, typ := refTypeIn (convRef v { typ := refTypeOut r.typ }).typ,
         hashes := (hashesOut r.hashes).foldl (fun m h => Spdx.mapStore m (hashIn h.algo) h.value) [] } : ExtRef)))) := by
  obtain ⟨hName, hVer, hDesc, hCp, hLic, hPur, hRefs, hIds, hHs⟩ := rtNode_attrs v n
  exact hRefs

/-- a reference of a type every version has, with hashes over the CycloneDX algorithms, comes
    back with the same type, URL, comment and hash entries (in key order), without its authority -/
theorem reference_preserved (v : Nat) (r : ExtRef) (ht : r.typ ∈ refTypesAll)
    (hk : ∀ kv ∈ r.hashes, kv.1 ∈ cdxHashes) (hnd : (r.hashes.map (·.1)).Nodup) :
    ({ url := r.url, comment := r.comment, typ := refTypeIn (convRef v { typ := refTypeOut r.typ }).typ,
       hashes := (hashesOut r.hashes).foldl (fun m h => Spdx.mapStore m (hashIn h.algo) h.value) [] } : ExtRef) =
    { r with authority := "", hashes := sortedByKey r.hashes } := by
  rw [reftypes_roundtrip_all v r.typ ht, refHashes_hashesOut r.hashes hk hnd]

/-! ### the node set and the nodes of the round trip -/

/-- **the same node set**: on containment forests the round trip returns exactly the identifiers
    of the document, each once -/
theorem roundtrip_same_node_set (v : Nat) (d : Document) (md : Metadata) (nl : NodeList) (root : String) (rootNode : Node)
    (lcs : List Lifecycle) (p1 : Pass1) (ht : String → Nat)
    (hmd : d.metadata = some md) (hnl : d.nodeList = some nl) (hroots : nl.roots = [root])
    (hroot : nl.getNodeByID root = some rootNode) (hrid : rootNode.id = root)
    (hlc : serCDX.mapLifecycles md.docTypes = .ok lcs)
    (hp1 : pass1 (fun id => (dictOf nl.nodes).any (·.1 = id)) nl.edges = .ok p1)
    (F : Forest (childrenOf p1) ht (fun x => ((dictOf nl.nodes).lookup x).isSome = true) [root])
    (hht : ∀ x, ht x < (dictOf nl.nodes).length + 2)
    (hids : ∀ x, ((dictOf nl.nodes).lookup x).isSome = true → x ≠ "" ∧ isAutoRef x = false) :
    ∃ (d' : Document) (nl' : NodeList), rtCDX v d = .ok d' ∧ d'.nodeList = some nl' ∧ nl'.ids.Nodup ∧
      ∀ x, x ∈ nl'.ids ↔ x ∈ nl.ids := by
  have H := ForestDoc.mk hmd hnl hroots hroot hrid hlc hp1 F hht
  obtain ⟨d', nl', h1, h2, _, h4, _⟩ := H.rt v hids
  exact ⟨d', nl', h1, h2, h4 ▸ H.preorder.1, fun x => h4 ▸ H.preorder.2 x⟩

/-- **every node that comes back is the image of the node with its identifier**: with unique
    identifiers, each node of the result is either the root component read back (the root node,
    named after the document when it has no name of its own) or `rtNode v n` for the node `n` of
    the document with the same identifier — so the per-attribute theorems above apply to it,
    wherever it is nested and in whatever order the edges were stored -/
theorem roundtrip_nodes (v : Nat) (d : Document) (md : Metadata) (nl : NodeList) (root : String) (rootNode : Node)
    (lcs : List Lifecycle) (p1 : Pass1) (ht : String → Nat)
    (hmd : d.metadata = some md) (hnl : d.nodeList = some nl) (hroots : nl.roots = [root])
    (hroot : nl.getNodeByID root = some rootNode) (hrid : rootNode.id = root)
    (hlc : serCDX.mapLifecycles md.docTypes = .ok lcs)
    (hp1 : pass1 (fun id => (dictOf nl.nodes).any (·.1 = id)) nl.edges = .ok p1)
    (F : Forest (childrenOf p1) ht (fun x => ((dictOf nl.nodes).lookup x).isSome = true) [root])
    (hht : ∀ x, ht x < (dictOf nl.nodes).length + 2)
    (hids : ∀ x, ((dictOf nl.nodes).lookup x).isSome = true → x ≠ "" ∧ isAutoRef x = false)
    (hnd : nl.ids.Nodup) :
    ∃ (d' : Document) (nl' : NodeList), rtCDX v d = .ok d' ∧ d'.nodeList = some nl' ∧
      ∀ n' ∈ nl'.nodes,
        n' = componentToNode (convComp v (if md.name ≠ "" ∧ (nodeToComponent rootNode).name = ""
          then (nodeToComponent rootNode).withName md.name else nodeToComponent rootNode)) 0 ∨
        ∃ n ∈ nl.nodes, n' = rtNode v n ∧ n'.id = n.id := by
  have H := ForestDoc.mk hmd hnl hroots hroot hrid hlc hp1 F hht
  obtain ⟨d', nl', h1, h2, h3, _⟩ := H.rt v hids
  have hD := H.below_known
  refine ⟨d', nl', h1, h2, fun n' hn' => ?_⟩
  rw [h3] at hn'
  rcases List.mem_cons.mp hn' with e | e
  · exact Or.inl e
  · obtain ⟨x, hx, rfl⟩ := List.mem_map.mp e
    obtain ⟨n, hn, rfl⟩ := List.mem_map.mp ((dictOf_known nl.nodes x).mp (hD x hx))
    have e : componentToNode (convComp v (comp0 (dictOf nl.nodes) n.id)) 0 = rtNode v n := by
      rw [comp0_of_mem nl.nodes hnd n hn]; rfl
    exact Or.inr ⟨n, hn, e, e ▸ rtNode_id v n (hids n.id (hD _ hx)).1⟩

/-! ### a second pass changes nothing further -/

/-- for a node of the round-trip class `CdxNode` (non-empty identifier, at most one licence, hashes
    over the CycloneDX algorithms, references of types every version has with hashes of that kind
    too) the node that comes back from CycloneDX 1.4 or 1.5 is a fixpoint of the round trip: every
    attribute, kind and identifier included, is the same after a second write-then-read (`rtNode`:
    one node, not a document) -/
theorem second_pass_changes_nothing (v : Nat) (hv : v = 4 ∨ v = 5) (n : Node) (c : CdxNode n) :
    rtNode v (rtNode v n) = rtNode v n := second_pass_all v n c

/-- and what comes back is again in the class, so the same holds for every further pass -/
theorem class_closed_under_pass (v : Nat) (n : Node) (c : CdxNode n) : CdxNode (rtNode v n) := rtNode_class v n c

/-- without the licence bound the fixpoint fails, in the model as in the code (the known finding
    KF-C02-licence-truncation): with two licences the concluded-licence text changes on the second pass -/
example :
    let n : Node := { id := "a", typ := 0, attrs := Schema.nodeAttrs.map (fun fk =>
      if fk.1 = "Licenses" then .strs ["MIT", "ISC"] else fk.2.zero) }
    Spdx.Node.str (rtNode 5 (rtNode 5 n)) "LicenseConcluded" ≠ Spdx.Node.str (rtNode 5 n) "LicenseConcluded" := by decide

/-- non-vacuity: a node with a name, a hash and one licence is in the class -/
example : CdxNode { id := "a", typ := 0, attrs := Schema.nodeAttrs.map (fun fk =>
      if fk.1 = "Licenses" then .strs ["MIT"] else if fk.1 = "Hashes" then .imap [(3, "aa")]
      else if fk.1 = "Name" then .str "x" else fk.2.zero) } := by
  refine ⟨by decide, by decide, by decide, by decide, by decide⟩

end Protobom.C02
