/-
  C17 — Registries, detection, parsing and writing are safe under concurrency.
  Generic theorems (`Proofs/Conc.lean`): the locking discipline excludes data races in every
  reachable configuration of any number of threads, and write-locked sections are exclusive.
  Instantiation: the discipline is checked on the access records that the extractor reads from the
  current source (`Gen/Access.lean`).
-/
import Protobom.Proofs.Conc
import Protobom.Gen.Access

namespace Protobom.C17
open Protobom.Conc Gen

/-! ### an executable form of the discipline -/

/-- runs the discipline along an event list; `none` = violated, `some h` = locks held at the end -/
def runWL (prot : String → String) : List (String × Mode) → List Ev → Option (List (String × Mode))
  | held, [] => some held
  | held, .lock l m :: r => if held.any (·.1 = l) then none else runWL prot ((l, m) :: held) r
  | held, .unlock l m :: r => if (l, m) ∈ held then runWL prot (held.erase (l, m)) r else none
  | held, .read x :: r => if held.any (·.1 = prot x) then runWL prot held r else none
  | held, .write x :: r => if (prot x, Mode.W) ∈ held then runWL prot held r else none

/-- at every event the guard of `runWL` is the conjunct `WL` asks for -/
theorem runWL_sound (prot : String → String) : ∀ (evs : List Ev) (held h' : List (String × Mode)),
    runWL prot held evs = some h' → WL prot held evs
  | [], _, _, _ => trivial
  | .lock l m :: r, held, h', h => by
    simp only [runWL, Option.ite_none_left_eq_some] at h
    exact ⟨fun m' hm => h.1 (List.any_eq_true.mpr ⟨(l, m'), hm, decide_eq_true rfl⟩), runWL_sound prot r _ h' h.2⟩
  | .unlock l m :: r, held, h', h => by
    simp only [runWL, Option.ite_none_right_eq_some] at h
    exact ⟨h.1, runWL_sound prot r _ h' h.2⟩
  | .read x :: r, held, h', h => by
    simp only [runWL, Option.ite_none_right_eq_some, List.any_eq_true, decide_eq_true_eq] at h
    obtain ⟨⟨⟨l, m⟩, hmem, hl⟩, h⟩ := h
    exact ⟨⟨m, hl ▸ hmem⟩, runWL_sound prot r _ h' h⟩
  | .write x :: r, held, h', h => by
    simp only [runWL, Option.ite_none_right_eq_some] at h
    exact ⟨h.1, runWL_sound prot r _ h' h.2⟩

theorem runWL_append (prot : String → String) : ∀ (a b : List Ev) (held : List (String × Mode)),
    runWL prot held (a ++ b) = (runWL prot held a).bind (fun h => runWL prot h b)
  | [], b, held => rfl
  | e :: r, b, held => by
    -- `bind` goes through the guard of every event: refused on both sides, or the rest of the list
    have hite : ∀ (c : Prop) [Decidable c] (x y : Option (List (String × Mode))),
        (if c then x else y).bind (fun h => runWL prot h b) = if c then x.bind _ else y.bind _ :=
      fun c _ x y => apply_ite (Option.bind · _) c x y
    cases e <;> simp only [List.cons_append, runWL, runWL_append prot r b, hite, Option.bind_none]

theorem balanced_flatMap (prot : String → String) (progOf : String → List Ev) (calls : List String)
    (h : ∀ f ∈ calls, runWL prot [] (progOf f) = some []) : runWL prot [] (calls.flatMap progOf) = some [] := by
  induction calls with
  | nil => rfl
  | cons f fs ih =>
    rw [List.flatMap_cons, runWL_append, h f List.mem_cons_self]
    exact ih (fun g hg => h g (List.mem_cons_of_mem _ hg))

/-! ### the reader's registry, from the access records of the source -/

def prot : String → String
  | "unserializers" => "regMtx"
  | x => x ++ ":unprotected"

def modeOf : String → Mode
  | "W" => .W
  | _ => .R

/-- the event program of an entry point, rebuilt from its access records: per critical section,
    lock, the recorded accesses in order, unlock; then, bare, the accesses recorded under no lock
    (which `runWL` refuses) -/
def progOf (fn : String) : List Ev :=
  let rs := Access.records.filter (fun r => r.pkg = "reader" ∧ r.fn = fn ∧ r.var = "unserializers")
  let sections := (rs.flatMap (·.locks)).eraseDups
  let unlocked := (rs.filter (fun r => r.locks = [])).map (fun r => if r.write then Ev.write r.var else Ev.read r.var)
  sections.flatMap (fun s =>
    [Ev.lock s.1 (modeOf s.2.1)] ++
    ((rs.filter (fun r => s ∈ r.locks)).map (fun r => if r.write then Ev.write r.var else Ev.read r.var)) ++
    [Ev.unlock s.1 (modeOf s.2.1)]) ++ unlocked

def registryEntryPoints : List String := ["RegisterUnserializer", "UnregisterUnserializer", "GetFormatUnserializer"]

/-- every registry entry point keeps the discipline and is balanced -/
theorem entry_points_well_locked : ∀ f ∈ registryEntryPoints, runWL prot [] (progOf f) = some [] := by decide +kernel

/-- … and performs all its accesses to the registry inside ONE critical section (a lookup is not
    split into a presence check and a fetch under separate lock acquisitions) -/
theorem entry_points_atomic : ∀ f ∈ registryEntryPoints,
    ((Access.records.filter (fun r => r.pkg = "reader" ∧ r.fn = f ∧ r.var = "unserializers")).map (·.locks)).eraseDups.length = 1 := by
  decide +kernel

/-- every function that touches the registry at all is one of the entry points or `init` -/
theorem registry_touched_only_by_entry_points :
    ∀ r ∈ Access.records, r.var = "unserializers" → r.fn ∈ "init" :: registryEntryPoints := by decide

/-- the remaining package-level state of reader, writer, formats and storage: synchronisation
    objects whose operations are atomic by contract, or variables no function writes after `init` -/
def classify (v : String × String × String) : String :=
  if v.2.2 ∈ ["sync.RWMutex", "sync.Once", "sync.Map"] then "sync"
  else if (v.1, v.2.1) = ("reader", "unserializers") then "lock-protected"
  else if Access.records.all (fun r => !(r.pkg = v.1 ∧ r.var = v.2.1 ∧ r.write ∧ r.fn ≠ "init")) then "read-only"
  else "unclassified"

theorem package_state_classified : ∀ v ∈ Access.varTypes, classify v ≠ "unclassified" := by decide +kernel

theorem package_state_inventory :
    Access.varTypes.map (fun v => (v.1, v.2.1, classify v)) =
      [("reader", "defaultOptions", "read-only"), ("reader", "defaultUnserializeOptions", "read-only"),
       ("reader", "regMtx", "sync"), ("reader", "unserializers", "lock-protected"),
       ("writer", "defaultOptions", "read-only"), ("writer", "once", "sync"), ("writer", "serializers", "sync"),
       ("formats", "List", "read-only"), ("formats", "ListFormats", "read-only"),
       ("formats", "sniffFormats", "read-only")] := by decide +kernel

theorem threads_well_locked (threads : List (List String))
    (hcalls : ∀ t ∈ threads, ∀ f ∈ t, f ∈ registryEntryPoints) :
    ∀ p ∈ threads.map (fun t => t.flatMap progOf), WL prot [] p := by
  intro p hp
  obtain ⟨t, ht, rfl⟩ := List.mem_map.mp hp
  exact runWL_sound prot _ [] [] (balanced_flatMap prot progOf t
    (fun f hf => entry_points_well_locked f (hcalls t ht f hf)))

/-- **no data race**: any number of goroutines, each making any sequence of registry calls, in any
    interleaving: no reachable configuration has two threads about to touch the registry map with
    one of them writing -/
theorem registry_race_free (threads : List (List String))
    (hcalls : ∀ t ∈ threads, ∀ f ∈ t, f ∈ registryEntryPoints) (c : Cfg)
    (hr : Reach (initCfg (threads.map (fun t => t.flatMap progOf))) c) : ¬ Race c :=
  well_locked_race_free prot _ (threads_well_locked threads hcalls) c hr

/-- **registration and removal are exclusive**: while a goroutine is inside the write-locked
    section of Register/Unregister, no other goroutine is inside any section of the registry -/
theorem registry_writers_exclusive (threads : List (List String))
    (hcalls : ∀ t ∈ threads, ∀ f ∈ t, f ∈ registryEntryPoints) (c : Cfg)
    (hr : Reach (initCfg (threads.map (fun t => t.flatMap progOf))) c) : Excl c :=
  critical_sections_exclusive prot _ (threads_well_locked threads hcalls) c hr

/-! ### sequential results: critical sections as atomic steps -/

abbrev Reg := List (String × String)

inductive Call where
  | register (f d : String)
  | unregister (f : String)
  | lookup (f : String)
deriving Repr, DecidableEq

/-- one critical section -/
def applyCall (r : Reg) : Call → Reg × Option String
  | .register f d => ((f, d) :: r.filter (·.1 ≠ f), none)
  | .unregister f => (r.filter (·.1 ≠ f), none)
  | .lookup f => (r, r.lookup f)

def runSeq (r : Reg) : List Call → Reg × List (Option String)
  | [] => (r, [])
  | c :: cs => let a := applyCall r c; let rest := runSeq a.1 cs; (rest.1, a.2 :: rest.2)

/-- a schedule picks, step by step, the thread whose next call runs; `none` when it names a
    thread with nothing left -/
def runSched (r : Reg) (threads : List (List Call)) : List Nat → Option (Reg × List (Nat × Call × Option String))
  | [] => some (r, [])
  | i :: is =>
    match threads[i]? with
    | some (c :: rest) =>
      let a := applyCall r c
      (runSched a.1 (threads.set i rest) is).map (fun x => (x.1, (i, c, a.2) :: x.2))
    | _ => none

theorem runSched_cons {r : Reg} {threads : List (List Call)} {i : Nat} {is : List Nat}
    {out : Reg × List (Nat × Call × Option String)} (h : runSched r threads (i :: is) = some out) :
    ∃ c rest x, threads[i]? = some (c :: rest) ∧
      runSched (applyCall r c).1 (threads.set i rest) is = some x ∧
      out = (x.1, (i, c, (applyCall r c).2) :: x.2) := by
  simp only [runSched] at h
  split at h
  · rename_i c rest hc
    obtain ⟨x, hx, rfl⟩ := Option.map_eq_some_iff.mp h
    exact ⟨c, rest, x, hc, hx, rfl⟩
  · cases h

/-- **every schedule of atomic calls is a sequential execution**: the calls of any schedule, in the
    order the schedule runs their critical sections, form a sequential execution with the same final
    registry and the same result for every call -/
theorem schedule_is_sequential (threads : List (List Call)) (sched : List Nat) (r : Reg)
    (out : Reg × List (Nat × Call × Option String)) (h : runSched r threads sched = some out) :
    runSeq r (out.2.map (·.2.1)) = (out.1, out.2.map (·.2.2)) := by
  induction sched generalizing r threads out with
  | nil =>
    simp only [runSched, Option.some.injEq] at h
    subst h; rfl
  | cons i is ih =>
    obtain ⟨c, rest, x, _, hx, rfl⟩ := runSched_cons h
    simp only [List.map_cons, runSeq, ih _ _ x hx]

/-- and it keeps each goroutine's own order of calls -/
theorem schedule_keeps_program_order (threads : List (List Call)) (sched : List Nat) (r : Reg)
    (out : Reg × List (Nat × Call × Option String)) (h : runSched r threads sched = some out) (i : Nat) :
    ((out.2.filter (·.1 = i)).map (·.2.1)) <+: (threads[i]?.getD []) := by
  induction sched generalizing r threads out with
  | nil =>
    simp only [runSched, Option.some.injEq] at h
    subst h; simp
  | cons j js ih =>
    obtain ⟨c, rest, x, hc, hx, rfl⟩ := runSched_cons h
    have hrec := ih _ _ x hx
    by_cases hij : j = i
    · subst hij
      have hlt : j < threads.length := (List.getElem?_eq_some_iff.mp hc).1
      simp only [List.filter_cons, decide_true, if_true, List.map_cons, hc, Option.getD_some]
      rw [List.getElem?_set_self hlt, Option.getD_some] at hrec
      exact List.prefix_cons_inj _ |>.mpr hrec
    · simp only [List.filter_cons, hij, decide_false, Bool.false_eq_true, if_false]
      rw [List.getElem?_set_ne hij] at hrec
      exact hrec

/-- non-vacuity: a schedule of two goroutines -/
example : (runSched [] [[.register "f" "d", .lookup "f"], [.unregister "f", .lookup "f"]] [0, 1, 0, 1]).isSome = true := by
  decide

end Protobom.C17
