/-
  C15 — Sub-graph extraction computes bounded reachability and terminates.

  Termination on every graph (cyclic, self-referential, ill-formed) is part of the *definitions*:
  `NodeList.reach` is accepted by Lean only with its well-founded measure (number of identifiers
  not yet visited, then stack length); `descLoop` is structural in the depth.
-/
import Protobom.Proofs.Descend

namespace Protobom.C15
open Protobom

/-! ### full graph: unbounded reachability; other roots are left out and never traversed through -/

theorem nodeGraph_nodes (nl : NodeList) (id : String) (r : NodeList) (h : nl.nodeGraph id = some r)
    (z : String) : z ∈ r.ids ↔ Path nl nl.roots id z := (nodeGraph_sem h).ids z

theorem nodeGraph_edgeset (nl : NodeList) (id : String) (r : NodeList) (h : nl.nodeGraph id = some r)
    (s : String) (t : Int) (d : String) :
    r.HasEdge s t d ↔ nl.HasEdge s t d ∧ s ∈ r.ids ∧ d ∈ r.ids := (nodeGraph_sem h).rel s t d

theorem nodeGraph_sole_root (nl : NodeList) (id : String) (r : NodeList) (h : nl.nodeGraph id = some r) :
    r.roots = [id] := (nodeGraph_some h).2 ▸ rfl

/-- a result is returned exactly when the start node exists -/
theorem nodeGraph_defined (nl : NodeList) (id : String) : (nl.nodeGraph id).isSome ↔ id ∈ nl.ids := by
  unfold NodeList.nodeGraph; split <;> simp [*]

theorem nodeGraph_nodup (nl : NodeList) (id : String) (r : NodeList) (h : nl.nodeGraph id = some r) :
    r.ids.Nodup := (nodeGraph_wf_normal nl id r h).1.nodup

/-! ### siblings: one hop -/

theorem nodeSiblings_nodes (nl : NodeList) (id : String) (r : NodeList) (h : nl.nodeSiblings id = some r)
    (hin : id ∈ nl.ids) (z : String) :
    z ∈ r.ids ↔ z = id ∨ (∃ t, nl.HasEdge id t z) ∧ z ∈ nl.ids := (nodeSiblings_sem h hin).ids z

theorem nodeSiblings_edgeset (nl : NodeList) (id : String) (r : NodeList) (h : nl.nodeSiblings id = some r)
    (hin : id ∈ nl.ids) (s : String) (t : Int) (d : String) :
    r.HasEdge s t d ↔ nl.HasEdge s t d ∧ s = id ∧ d ∈ r.ids := by
  have sem := nodeSiblings_sem h hin
  rw [sem.rel, and_assoc]
  exact and_congr_right' (and_congr_right fun hs => and_iff_right ((sem.ids s).mpr (.inl hs)))

theorem nodeSiblings_sole_root (nl : NodeList) (id : String) (r : NodeList)
    (h : nl.nodeSiblings id = some r) (hin : id ∈ nl.ids) : r.roots = [id] :=
  (nodeSiblings_some h).2.1 hin ▸ rfl

/-! ### descendants: within the requested depth (the start node is level zero; depth 1 returns it alone) -/

/-- exactly the nodes reached within fewer than `depth` hops, where another root element may be
    reached but is never traversed through (`ReachIn` leaves a node only if it is the start node
    or not a root) -/
theorem nodeDescendants_nodes (nl : NodeList) (id : String) (depth : Int) (hin : id ∈ nl.ids) (z : String) :
    z ∈ (nl.nodeDescendants id depth).ids ↔ ∃ k, k < depth.toNat ∧ ReachIn nl id k z :=
  ((nodeDescendants_sem nl id depth).ids z).trans (and_iff_right hin)

theorem nodeDescendants_monotone (nl : NodeList) (id : String) (d1 d2 : Int) (h : d1 ≤ d2) (z : String)
    (hz : z ∈ (nl.nodeDescendants id d1).ids) : z ∈ (nl.nodeDescendants id d2).ids := by
  obtain ⟨hin, k, hk, hr⟩ := ((nodeDescendants_sem nl id d1).ids z).mp hz
  exact ((nodeDescendants_sem nl id d2).ids z).mpr ⟨hin, k, by omega, hr⟩

theorem nodeDescendants_depth_one (nl : NodeList) (id : String) (hin : id ∈ nl.ids) (z : String) :
    z ∈ (nl.nodeDescendants id 1).ids ↔ z = id :=
  (nodeDescendants_nodes nl id 1 hin z).trans
    ⟨fun ⟨_, hk, hr⟩ => reachIn_zero (Nat.lt_one_iff.mp hk ▸ hr), fun h => ⟨0, Nat.one_pos, h ▸ .zero⟩⟩

theorem nodeDescendants_edgeset (nl : NodeList) (id : String) (depth : Int) (s : String) (t : Int) (d : String) :
    (nl.nodeDescendants id depth).HasEdge s t d ↔
      nl.HasEdge s t d ∧ s ∈ (nl.nodeDescendants id depth).ids ∧ d ∈ (nl.nodeDescendants id depth).ids :=
  (nodeDescendants_sem nl id depth).rel s t d

theorem nodeDescendants_root (nl : NodeList) (id : String) (depth : Int) (r : String)
    (h : r ∈ (nl.nodeDescendants id depth).roots) : r = id :=
  (((nodeDescendants_sem nl id depth).roots r).mp h).1

theorem nodeDescendants_nodup (nl : NodeList) (id : String) (depth : Int) :
    (nl.nodeDescendants id depth).ids.Nodup := (nodeDescendants_wf_normal nl id depth).1.nodup

/-! ### independence of node and edge order

  `Path`, `HasEdge` and membership in `ids` mention the node list only through sets, so two lists
  with the same identifier set, root set and edge relation have the same reachability relation. -/

/-- the full-graph extraction returns the same node set for equivalent (e.g. reordered) lists -/
theorem nodeGraph_order_independent (a b : NodeList) (h : a ≃ₙ b) (id : String) (ra rb : NodeList)
    (ha : a.nodeGraph id = some ra) (hb : b.nodeGraph id = some rb) (z : String) :
    z ∈ ra.ids ↔ z ∈ rb.ids := (nodeGraph_congr h ha hb).ids z

theorem nodeGraph_edges_order_independent (a b : NodeList) (h : a ≃ₙ b) (id : String) (ra rb : NodeList)
    (ha : a.nodeGraph id = some ra) (hb : b.nodeGraph id = some rb) (s : String) (t : Int) (d : String) :
    ra.HasEdge s t d ↔ rb.HasEdge s t d := (nodeGraph_congr h ha hb).edges s t d

/-- the bounded extraction returns the same node set, and the same edge relation, for equivalent
    (e.g. reordered) lists, at every depth -/
theorem nodeDescendants_order_independent (a b : NodeList) (h : a ≃ₙ b) (id : String) (depth : Int)
    (hin : id ∈ a.ids) :
    (∀ z, z ∈ (a.nodeDescendants id depth).ids ↔ z ∈ (b.nodeDescendants id depth).ids) ∧
    (∀ s t d, (a.nodeDescendants id depth).HasEdge s t d ↔ (b.nodeDescendants id depth).HasEdge s t d) :=
  ⟨(nodeDescendants_congr h id depth).ids, (nodeDescendants_congr h id depth).edges⟩

theorem nodeSiblings_order_independent (a b : NodeList) (h : a ≃ₙ b) (id : String) (ra rb : NodeList)
    (ha : a.nodeSiblings id = some ra) (hb : b.nodeSiblings id = some rb) (hin : id ∈ a.ids) :
    (∀ z, z ∈ ra.ids ↔ z ∈ rb.ids) ∧ (∀ s t d, ra.HasEdge s t d ↔ rb.HasEdge s t d) :=
  ⟨(nodeSiblings_congr h ha hb hin).ids, (nodeSiblings_congr h ha hb hin).edges⟩

/-- non-vacuity: on a two-node cycle with a self-loop the full graph of `a` is defined -/
example : ∃ r, ({ nodes := [{ id := "a" }, { id := "b" }],
                  edges := [{ ty := 5, src := "a", tos := ["b", "a"] }, { ty := 10, src := "b", tos := ["a"] }],
                  roots := ["a"] } : NodeList).nodeGraph "a" = some r := by
  simp [NodeList.nodeGraph, NodeList.ids]

end Protobom.C15
