/-
  C14 — Node diff is sound, complete and reconstructive.
  Hypothesis `typed`: the attribute list follows the schema and maps are key-unique (they model Go
  maps). That every node that comes over the line protocol is typed is a property of the harness;
  nothing in Lean states it.
-/
import Protobom.Proofs.Diff

namespace Protobom.C14
open Protobom Gen

/-- `Node.Diff` compares every attribute of the schema with the helper its kind calls for
    (regenerated table, checked by evaluation; fails when a field is added or dropped) -/
theorem diff_covers_schema : ∀ fk ∈ Schema.nodeAttrs, diffHandles fk.1 fk.2 = true := by decide +kernel

theorem diff_handles_id_and_type :
    NodeFields.diffTable.contains ("Id", "diff") = true ∧ NodeFields.diffTable.contains ("Type", "diff") = true := by
  decide

/-- the negation of the property's "some attribute differs" -/
def Agree (n m : Node) : Prop := n.id = m.id ∧ n.typ = m.typ ∧ AttrsEq Schema.nodeAttrs n.attrs m.attrs

theorem count_eq (n m : Node) :
    (n.diffRaw m).count = (diffStr n.id m.id).2.2 + (diffInt n.typ m.typ).2.2 +
      ((diffAttrs Schema.nodeAttrs n.attrs m.attrs).map (·.2.2)).sum := by
  simp only [Node.diffRaw, diff_handles_id_and_type.1, diff_handles_id_and_type.2, if_true]

/-- sound and complete: no difference is reported exactly when every attribute agrees
    (as sets for list- and map-valued attributes, to the second for dates) -/
theorem diff_none_iff (n m : Node) (hn : n.typed) (hm : m.typed) : n.diff m = none ↔ Agree n m := by
  have hz := counts_sum_zero _ _ _ _ (diffAttrs_law Schema.nodeAttrs n.attrs m.attrs diff_covers_schema hn hm).1
  simp only [Node.diff, count_eq, ite_eq_right_iff, reduceCtorEq, imp_false, Nat.not_lt, Nat.le_zero_eq,
    Nat.add_eq_zero_iff, (diffStr_law _ _).zero, (diffInt_law _ _).zero, hz, Agree, and_assoc]

theorem diff_self (n : Node) (hn : n.typed) : n.diff n = none :=
  (diff_none_iff n n hn hn).mpr ⟨rfl, rfl, attrsEq_refl_of_typed _ _ hn⟩

/-- each differing attribute is counted exactly once: the count is the sum of one 0/1 entry per
    attribute (identifier and type included), 0 exactly when that attribute agrees -/
theorem diff_counts_each_once (n m : Node) (hn : n.typed) (hm : m.typed) :
    ∃ ci ct : Nat, ∃ cs : List Nat,
      (n.diffRaw m).count = ci + ct + cs.sum ∧
      (ci ≤ 1 ∧ (ci = 0 ↔ n.id = m.id)) ∧ (ct ≤ 1 ∧ (ct = 0 ↔ n.typ = m.typ)) ∧
      CountsSpec Schema.nodeAttrs n.attrs m.attrs cs := by
  exact ⟨_, _, _, count_eq n m, ⟨(diffStr_law _ _).le, (diffStr_law _ _).zero⟩,
    ⟨(diffInt_law _ _).le, (diffInt_law _ _).zero⟩, (diffAttrs_law _ _ _ diff_covers_schema hn hm).1⟩

/-- reconstructive: the reported additions and removals rebuild the second node's attributes
    from the first node -/
theorem diff_reconstructs (n m : Node) (hn : n.typed) (hm : m.typed) :
    Agree (n.applyDiff (n.diff m)) m := by
  by_cases hc : (n.diffRaw m).count > 0
  · rw [show n.diff m = some (n.diffRaw m) from if_pos hc]
    simp only [Node.applyDiff, Agree, Node.diffRaw, diff_handles_id_and_type.1, diff_handles_id_and_type.2, if_true]
    refine ⟨(diffStr_law _ _).apply, (diffInt_law _ _).apply, ?_⟩
    simpa [List.map_map, Function.comp_def] using
      (diffAttrs_law Schema.nodeAttrs n.attrs m.attrs diff_covers_schema hn hm).2
  · have hd : n.diff m = none := if_neg hc
    rw [hd]
    exact (diff_none_iff n m hn hm).mp hd

/-- non-vacuity of `AttrsTyped`, on a schema of four attributes (a string, a string list with a
    repeated entry, a map, a date) -/
example : (AttrsTyped [("Name", Kind.str), ("Licenses", Kind.strs), ("Hashes", Kind.imap), ("ReleaseDate", Kind.date)]
    [.str "x", .strs ["MIT", "MIT"], .imap [(1, "aa"), (2, "")], .date (some (1700000000, 5))]) := by
  simp [AttrsTyped, Val.hasKind, Val.wellFormed, KeyUnique]

end Protobom.C14
