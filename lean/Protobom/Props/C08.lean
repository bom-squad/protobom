/-
  C08 — Graph-editing operations preserve well-formedness.
-/
import Protobom.Proofs.WF

namespace Protobom.C08
open Protobom

theorem union_preserves (a b : NodeList) (ha : a.WF) (hb : b.WF) : (a.union b).WF ∧ (a.union b).Normal :=
  ⟨union_wf a b ha hb, cleanEdgesL_normal _ _⟩

theorem intersect_preserves (a b : NodeList) : (a.intersect b).WF ∧ (a.intersect b).Normal :=
  ⟨intersect_wf a b, cleanEdgesL_normal _ _⟩

theorem add_preserves (a b : NodeList) (ha : a.WF) (hb : b.WF) : (a.add b).WF ∧ (a.add b).Normal :=
  ⟨add_wf a b ha hb, cleanEdgesL_normal _ _⟩

theorem removeNodes_preserves (a : NodeList) (rm : List String) (ha : a.WF) :
    (a.removeNodes rm).WF ∧ (a.removeNodes rm).Normal :=
  ⟨removeNodes_wf a rm ha, cleanEdgesL_normal _ _⟩

/-- node removal removes exactly the named nodes, together with every edge and root entry
    mentioning them -/
theorem removeNodes_exact (a : NodeList) (rm : List String) :
    (∀ x, x ∈ (a.removeNodes rm).ids ↔ x ∈ a.ids ∧ x ∉ rm) ∧
    (∀ x, x ∈ (a.removeNodes rm).roots ↔ x ∈ a.roots ∧ x ∉ rm) ∧
    (∀ s t d, (a.removeNodes rm).HasEdge s t d ↔
        a.HasEdge s t d ∧ (s ∈ a.ids ∧ s ∉ rm) ∧ (d ∈ a.ids ∧ d ∉ rm)) :=
  ⟨(removeNodes_sem a rm).ids, (removeNodes_sem a rm).roots, (removeNodes_sem a rm).edges⟩

theorem relateNode_preserves (a : NodeList) (n : Node) (at_ : String) (ty : Int) (r : NodeList)
    (ha : a.WF) (h : a.relateNodeAtID n at_ ty = some r) : r.WF :=
  relateNodeAtID_wf a n at_ ty r ha h

theorem relateList_preserves (a b : NodeList) (at_ : String) (ty : Int) (r : NodeList)
    (ha : a.WF) (hb : b.WF) (h : a.relateNodeListAtID b at_ ty = some r) : r.WF :=
  relateNodeListAtID_wf a b at_ ty r ha hb h

/-- extraction results are well-formed and normalised whatever the source list is -/
theorem nodeGraph_preserves (a : NodeList) (id : String) (r : NodeList) (h : a.nodeGraph id = some r) :
    r.WF ∧ r.Normal := nodeGraph_wf_normal a id r h

theorem nodeSiblings_preserves (a : NodeList) (id : String) (r : NodeList)
    (h : a.nodeSiblings id = some r) : r.WF ∧ r.Normal := nodeSiblings_wf_normal a id r h

theorem nodeDescendants_preserves (a : NodeList) (id : String) (depth : Int) :
    (a.nodeDescendants id depth).WF ∧ (a.nodeDescendants id depth).Normal :=
  nodeDescendants_wf_normal a id depth

theorem purlType_preserves (a : NodeList) (t : String) (ha : a.WF) :
    (a.getNodesByPurlType t).WF ∧ (a.getNodesByPurlType t).Normal :=
  ⟨getNodesByPurlType_wf a t ha.nodup, cleanEdgesL_normal _ _⟩

/-- every register stays well-formed along every finite sequence of editing operations with
    arbitrary arguments -/
theorem run_preserves (regs : List NodeList) (h : ∀ r ∈ regs, r.WF) (prog : List Instr) :
    ∀ r ∈ run regs prog, r.WF :=
  List.foldlRecOn (motive := fun regs => ∀ r ∈ regs, r.WF) prog exec h fun regs h i _ => exec_wf regs h i

/-- non-vacuity: the hypothesis is met by a register file holding a cyclic list with a root -/
example : ∀ r ∈ [({ nodes := [{ id := "a" }, { id := "b" }],
                    edges := [{ ty := 5, src := "a", tos := ["b"] }, { ty := 10, src := "b", tos := ["a"] }],
                    roots := ["a"] } : NodeList), {}], r.WF := by
  intro r hr
  simp only [List.mem_cons, List.not_mem_nil, or_false] at hr
  rcases hr with rfl | rfl
  · constructor <;> decide
  · exact empty_wf_normal.1

end Protobom.C08
