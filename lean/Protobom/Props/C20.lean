/-
  C20 — Storing a document is atomic with respect to crashes.
-/
import Protobom.Proofs.Store
import Protobom.Gen.Skel
import Protobom.Expect.Skel

namespace Protobom.C20
open Protobom Protobom.Store Gen

/-- tie to the source: `Store` has the shape `storeOps` was modelled from (create temp, write, chmod,
    rename into place; it also closes the file, which is not modelled) and `Retrieve` the one that
    checks the stored identifier -/
theorem skel_Store : Skel.storage_FileSystem_Store = Expect.Skel.storage_FileSystem_Store := rfl
theorem skel_Retrieve : Skel.storage_FileSystem_Retrieve = Expect.Skel.storage_FileSystem_Retrieve := rfl

/-- **atomicity**: whatever the codec accepts (in particular: even if it accepts torn prefixes of
    an encoding), in every state a store of `d` can leave when the process dies — before or after
    any of its file operations, or inside the write after any prefix of the bytes — a retrieve of
    `d`'s identifier gives what it gave before the store or the complete new document, and a
    retrieve of any other identifier gives what it gave before. The temporary name must not be an
    entry name (entry names are 64 hex digits plus `.protobom`; temporary names are longer). -/
theorem store_atomic (C : Codec) (N : Naming) (fs : Files) (d : SDoc) (tmp : String)
    (hid : d.id ≠ "") (htmp : ∀ i, N.entry i ≠ tmp)
    (s : Files) (hs : s ∈ crashStates fs (storeOps C N d tmp)) (id : String) :
    (id = d.id → retrieve C N s id = retrieve C N fs id ∨ retrieve C N s id = .ok d) ∧
    (id ≠ d.id → retrieve C N s id = retrieve C N fs id) := by
  obtain ⟨h1, h2⟩ := crash_states_spec C N fs d tmp (fun e => htmp d.id e.symm) s hs
  refine ⟨fun e => ?_, fun hne => retrieve_congr C N s fs id (h1 _ (htmp id) fun e => hne (N.inj _ _ e))⟩
  subst e
  exact h2.imp (retrieve_congr C N s fs _) (retrieve_of_entry C N s d hid)

/-- in particular never a truncated, empty or mixed document: the result is an error, the old
    document or the new one -/
theorem no_torn_document (C : Codec) (N : Naming) (fs : Files) (d : SDoc) (tmp : String)
    (hid : d.id ≠ "") (htmp : ∀ i, N.entry i ≠ tmp)
    (s : Files) (hs : s ∈ crashStates fs (storeOps C N d tmp)) (x : SDoc)
    (hx : retrieve C N s d.id = .ok x) : x = d ∨ retrieve C N fs d.id = .ok x := by
  rcases (store_atomic C N fs d tmp hid htmp s hs d.id).1 rfl with h | h
  · exact Or.inr (h ▸ hx)
  · rw [h] at hx; cases hx; exact Or.inl rfl

/-- a write that is cut short and *fails* (full disk, quota, file-size limit) instead of killing the
    process leaves the directory in a state a crash inside that write leaves: so as long as the
    store stops there — reports the error, renames nothing — `store_atomic` speaks about it too -/
theorem failed_write_is_a_crash_state (C : Codec) (N : Naming) (fs : Files) (d : SDoc) (tmp : String)
    (k : Nat) (hk : k < (C.enc d).length) :
    apply (apply fs (.create tmp)) (.write tmp ((C.enc d).take k)) ∈ crashStates fs (storeOps C N d tmp) := by
  unfold storeOps
  simp only [crashStates]
  apply List.mem_cons_of_mem
  apply List.mem_cons_of_mem
  apply List.mem_append_left
  exact List.mem_map.mpr ⟨k, List.mem_range.mpr hk, rfl⟩

theorem failed_write_keeps_entries (C : Codec) (N : Naming) (fs : Files) (d : SDoc) (tmp : String)
    (hid : d.id ≠ "") (htmp : ∀ i, N.entry i ≠ tmp) (k : Nat) (hk : k < (C.enc d).length) (id : String) :
    let s := apply (apply fs (.create tmp)) (.write tmp ((C.enc d).take k))
    (id = d.id → retrieve C N s id = retrieve C N fs id ∨ retrieve C N s id = .ok d) ∧
    (id ≠ d.id → retrieve C N s id = retrieve C N fs id) :=
  store_atomic C N fs d tmp hid htmp _ (failed_write_is_a_crash_state C N fs d tmp k hk) id

/-- the number of crash states of a store: one per byte of the encoding (the torn writes) and five
    before, between and after the four operations -/
theorem crash_points (C : Codec) (N : Naming) (fs : Files) (d : SDoc) (tmp : String) :
    (crashStates fs (storeOps C N d tmp)).length = (C.enc d).length + 5 := by
  simp [crashStates, storeOps]

/-! ### non-vacuity: a codec and a naming exist, and the premises of `store_atomic` are met -/

example : ∀ i, demoNaming.entry i ≠ "tmp" := by
  intro i h
  have := congrArg String.length h
  simp only [demoNaming, String.length_append] at this
  have h1 : ".protobom".length = 9 := by decide
  have h2 : "tmp".length = 3 := by decide
  omega

example : retrieve demoCodec demoNaming
    ((storeOps demoCodec demoNaming ⟨"a", [1, 2]⟩ "tmp").foldl apply (fun _ => none)) "a" = .ok ⟨"a", [1, 2]⟩ := by
  decide

end Protobom.C20
