/-
  C19 — Filesystem store round-trips, isolates keys, stays confined, reports errors.
-/
import Protobom.Proofs.Store
import Protobom.Gen.Skel
import Protobom.Expect.Skel

namespace Protobom.C19
open Protobom Protobom.Store Gen

theorem skel_fileName : Skel.storage__generateDocFileName = Expect.Skel.storage__generateDocFileName := rfl

/-- **round trip**: after a successful store, retrieving by the identifier gives the document —
    for any document, any identifier string, any previous content of the directory -/
theorem store_then_retrieve (C : Codec) (N : Naming) (fs : Files) (d : SDoc) (nc : Bool) (tmp : String)
    (h : (store C N fs d nc tmp).1 = .ok ()) :
    retrieve C N (store C N fs d nc tmp).2 d.id = .ok d := by
  rcases store_cases C N fs d nc tmp with ⟨_, e⟩ | ⟨h1, _, e⟩ <;> rw [e] at h ⊢
  · cases h
  · exact retrieve_of_entry C N _ d h1 (by simp [storeOps, apply, fput])

/-- **isolation**: a store never changes what another identifier retrieves -/
theorem store_keeps_others (C : Codec) (N : Naming) (fs : Files) (d : SDoc) (nc : Bool) (tmp : String)
    (htmp : ∀ i, N.entry i ≠ tmp) (id : String) (hne : id ≠ d.id) :
    retrieve C N (store C N fs d nc tmp).2 id = retrieve C N fs id :=
  retrieve_congr C N _ fs id (store_entry_other C N fs d nc tmp htmp id hne)

/-- **no-clobber**: an existing entry is neither replaced nor damaged; the store reports an error -/
theorem no_clobber (C : Codec) (N : Naming) (fs : Files) (d : SDoc) (tmp : String) (hid : d.id ≠ "")
    (hex : (fs (N.entry d.id)).isSome = true) :
    (store C N fs d true tmp).1 = .err ∧ (store C N fs d true tmp).2 = fs := by
  simp [store, hid, hex]

/-! **errors, not aborts** (the next four theorems): a document without identifier is refused and
    nothing is written; an unknown, undecodable or foreign entry is an error; no outcome is a panic -/

theorem store_without_id (C : Codec) (N : Naming) (fs : Files) (d : SDoc) (nc : Bool) (tmp : String) (h : d.id = "") :
    (store C N fs d nc tmp).1 = .err ∧ (store C N fs d nc tmp).2 = fs := by
  simp [store, h]

theorem retrieve_unknown (C : Codec) (N : Naming) (fs : Files) (id : String) (h : fs (N.entry id) = none) :
    retrieve C N fs id = .err := by
  rcases retrieve_cases C N fs id with e | ⟨b, _, _, hb, _⟩
  · exact e
  · rw [h] at hb; cases hb

theorem retrieve_corrupted (C : Codec) (N : Naming) (fs : Files) (id : String) (b : Bytes)
    (h : fs (N.entry id) = some b) (hbad : ∀ d, C.dec b = some d → d.id ≠ id) : retrieve C N fs id = .err := by
  rcases retrieve_cases C N fs id with e | ⟨b', d, _, hb, hd, he, _⟩
  · exact e
  · rw [h] at hb; cases hb; exact absurd he (hbad d hd)

theorem never_panics (C : Codec) (N : Naming) (fs : Files) (d : SDoc) (nc : Bool) (tmp id : String) :
    (store C N fs d nc tmp).1.isPanic = false ∧ (retrieve C N fs id).isPanic = false := by
  refine ⟨?_, ?_⟩
  · rcases store_cases C N fs d nc tmp with ⟨_, e⟩ | ⟨_, _, e⟩ <;> rw [e] <;> rfl
  · rcases retrieve_cases C N fs id with e | ⟨_, _, _, _, _, _, e⟩ <;> rw [e] <;> rfl

/-- a retrieved document is never silently empty: it carries the identifier that was asked for -/
theorem retrieved_has_id (C : Codec) (N : Naming) (fs : Files) (id : String) (d : SDoc)
    (h : retrieve C N fs id = .ok d) : d.id = id ∧ id ≠ "" := by
  rcases retrieve_cases C N fs id with e | ⟨_, d', hid, _, _, he, e⟩ <;> rw [e] at h <;> cases h
  exact ⟨he, hid⟩

/-! ### histories: the directory behaves like a map from identifiers to documents -/

/-- what the store holds, as seen through retrieve -/
def view (C : Codec) (N : Naming) (fs : Files) (id : String) : Option SDoc :=
  match retrieve C N fs id with
  | .ok d => some d
  | _ => none

/-- the abstract store -/
def specStep (m : String → Option SDoc) : Op → (String → Option SDoc)
  | .store d nc _ =>
    if d.id = "" then m
    else if nc ∧ (m d.id).isSome then m
    else fun i => if i = d.id then some d else m i
  | .retrieve _ => m

/-- the directory invariant behind no-clobber: an entry file exists only if it retrieves -/
def Clean (C : Codec) (N : Naming) (fs : Files) : Prop :=
  ∀ id, id ≠ "" → (fs (N.entry id)).isSome = true → (view C N fs id).isSome = true

/-- the simulation relation: the directory is clean and, seen through `Retrieve`, is the map `m`
    on every non-empty identifier -/
def Sim (C : Codec) (N : Naming) (fs : Files) (m : String → Option SDoc) : Prop :=
  Clean C N fs ∧ ∀ id, id ≠ "" → view C N fs id = m id

theorem entry_of_view {C : Codec} {N : Naming} {fs : Files} {id : String}
    (h : (view C N fs id).isSome = true) : (fs (N.entry id)).isSome = true := by
  cases hf : fs (N.entry id) with
  | some _ => rfl
  | none => simp [view, retrieve_unknown C N fs id hf] at h

theorem sim_step (C : Codec) (N : Naming) (fs : Files) (m : String → Option SDoc) (op : Op)
    (htmp : ∀ d nc tmp, op = .store d nc tmp → ∀ i, N.entry i ≠ tmp) (h : Sim C N fs m) :
    Sim C N (step C N fs op) (specStep m op) := by
  cases op with
  | retrieve _ => exact h
  | store d nc tmp =>
    have ht := htmp d nc tmp rfl
    obtain ⟨hclean, hv⟩ := h
    -- both sides test the same thing: in a clean directory an entry exists iff it retrieves, iff `m` has it
    have hguard : d.id ≠ "" → (m d.id).isSome = (fs (N.entry d.id)).isSome := fun h1 =>
      hv d.id h1 ▸ Bool.eq_iff_iff.mpr ⟨entry_of_view, hclean d.id h1⟩
    simp only [step, specStep]
    rcases store_cases C N fs d nc tmp with ⟨hr, e⟩ | ⟨h1, h2, e⟩
    · rw [e]
      by_cases h1 : d.id = ""
      · rw [if_pos h1]; exact ⟨hclean, hv⟩
      · rw [if_neg h1, hguard h1, if_pos (hr.resolve_left h1)]; exact ⟨hclean, hv⟩
    · have hsame : view C N (store C N fs d nc tmp).2 d.id = some d := by
        simp [view, store_then_retrieve C N fs d nc tmp (by rw [e])]
      have hother : ∀ id, id ≠ d.id → view C N (store C N fs d nc tmp).2 id = view C N fs id := fun id hi => by
        simp only [view, store_keeps_others C N fs d nc tmp ht id hi]
      rw [if_neg h1, hguard h1, if_neg h2]
      refine ⟨fun id hid hex => ?_, fun id hid => ?_⟩
      · by_cases hi : id = d.id
        · rw [hi, hsame]; rfl
        · rw [store_entry_other C N fs d nc tmp ht id hi] at hex
          rw [hother id hi]; exact hclean id hid hex
      · show _ = if id = d.id then some d else m id
        by_cases hi : id = d.id
        · rw [hi, hsame, if_pos rfl]
        · rw [hother id hi, if_neg hi]; exact hv id hid

/-- **refinement for every history**: after any sequence of stores (both no-clobber settings, any
    documents and identifiers) and retrieves, the directory seen through `Retrieve` is the abstract
    map from identifiers to documents that the same sequence builds -/
theorem run_refines (C : Codec) (N : Naming) (ops : List Op) (fs : Files)
    (htmp : ∀ op ∈ ops, ∀ d nc tmp, op = .store d nc tmp → ∀ i, N.entry i ≠ tmp) (hclean : Clean C N fs) :
    ∀ id, id ≠ "" → view C N (ops.foldl (step C N) fs) id = (ops.foldl specStep (view C N fs)) id :=
  (List.foldl_rel (r := Sim C N) ⟨hclean, fun _ _ => rfl⟩ fun op ho fs m => sim_step C N fs m op (htmp op ho)).2

/-! ### confinement: entry names are flat -/

theorem hexDigit_safe (n : Nat) (h : n < 16) : hexDigit n ≠ '/' ∧ hexDigit n ≠ '.' ∧ hexDigit n ≠ '\\' := by
  revert n; decide

/-- the file name of an entry — 2 hex digits per digest byte plus `.protobom` — contains no path
    separator and is not `.` or `..`: every entry is a direct child of the configured directory,
    whatever the identifier (path separators, dot-dot, absolute paths, unicode, very long) -/
theorem entry_name_flat (digest : List UInt8) :
    (∀ c ∈ entryName digest, c ≠ '/' ∧ c ≠ '\\') ∧ entryName digest ≠ ".".toList ∧ entryName digest ≠ "..".toList := by
  refine ⟨?_, ?_, ?_⟩
  · intro c hc
    simp only [entryName, List.mem_append, hex, List.mem_flatMap] at hc
    rcases hc with ⟨b, _, hb⟩ | hc
    · simp only [List.mem_cons, List.not_mem_nil, or_false] at hb
      rcases hb with rfl | rfl
      · have := hexDigit_safe (b.toNat / 16) (by have := UInt8.toNat_lt b; omega)
        exact ⟨this.1, this.2.2⟩
      · have := hexDigit_safe (b.toNat % 16) (by omega)
        exact ⟨this.1, this.2.2⟩
    · revert c; decide
  · intro h
    have := congrArg List.length h
    simp [entryName] at this
  · intro h
    have := congrArg List.length h
    simp [entryName] at this

end Protobom.C19
