/-
  C09 — Union and in-place add obey set-union and precedence laws.
-/
import Protobom.Proofs.NodeAttrs

namespace Protobom.C09
open Protobom

/-- edges of an operand mention only its own nodes (roots may dangle, identifiers may repeat) -/
def EdgesClosed (nl : NodeList) : Prop := ∀ s t d, nl.HasEdge s t d → s ∈ nl.ids ∧ d ∈ nl.ids

/-! ### refinement to set union (no well-formedness hypothesis: ill-formed operands included) -/

theorem union_nodes (a b : NodeList) (x : String) : x ∈ (a.union b).ids ↔ x ∈ a.ids ∨ x ∈ b.ids :=
  (union_sem a b).ids x

theorem union_rootset (a b : NodeList) (x : String) :
    x ∈ (a.union b).roots ↔ x ∈ a.roots ∨ x ∈ b.roots := (union_sem a b).roots x

theorem union_edgeset (a b : NodeList) (s : String) (t : Int) (d : String) :
    (a.union b).HasEdge s t d ↔
      (a.HasEdge s t d ∨ b.HasEdge s t d) ∧ (s ∈ a.ids ∨ s ∈ b.ids) ∧ (d ∈ a.ids ∨ d ∈ b.ids) :=
  (union_sem a b).edges s t d

/-- least upper bound of the node sets -/
theorem union_lub_nodes (a b c : NodeList) (ha : ∀ x, x ∈ a.ids → x ∈ c.ids)
    (hb : ∀ x, x ∈ b.ids → x ∈ c.ids) (x : String) (h : x ∈ (a.union b).ids) : x ∈ c.ids :=
  ((union_sem a b).ids x).mp h |>.elim (ha x) (hb x)

theorem union_edges_sup (a b : NodeList) (s t d) (h : a.HasEdge s t d ∨ b.HasEdge s t d)
    (hs : s ∈ (a.union b).ids) (hd : d ∈ (a.union b).ids) : (a.union b).HasEdge s t d :=
  ((union_sem a b).rel s t d).mpr ⟨h, hs, hd⟩

theorem add_nodes (a b : NodeList) (x : String) : x ∈ (a.add b).ids ↔ x ∈ a.ids ∨ x ∈ b.ids :=
  (add_sem a b).ids x

theorem add_rootset (a b : NodeList) (x : String) :
    x ∈ (a.add b).roots ↔ x ∈ a.roots ∨ x ∈ b.roots := (add_sem a b).roots x

theorem add_edgeset (a b : NodeList) (s : String) (t : Int) (d : String) :
    (a.add b).HasEdge s t d ↔
      (a.HasEdge s t d ∨ b.HasEdge s t d) ∧ (s ∈ a.ids ∨ s ∈ b.ids) ∧ (d ∈ a.ids ∨ d ∈ b.ids) :=
  (add_sem a b).edges s t d

/-- the in-place variant computes the same sets as union -/
theorem add_equiv_union (a b : NodeList) : a.add b ≃ₙ a.union b :=
  (add_sem a b).equiv (union_sem a b) (fun _ => .rfl) (fun _ => .rfl) (fun _ _ _ _ _ => .rfl)

theorem union_comm (a b : NodeList) : a.union b ≃ₙ b.union a :=
  (union_sem a b).equiv (union_sem b a) (fun _ => or_comm) (fun _ => or_comm) (fun _ _ _ _ _ => or_comm)

/-- idempotent: the union of a list with itself has its nodes, its roots and its edges
    restricted to present nodes (which is `cleanEdges`) -/
theorem union_idem (a : NodeList) : a.union a ≃ₙ a.cleanEdges :=
  (union_sem a a).equiv (cleanEdges_sem a) (fun _ => or_self_iff) (fun _ => or_self_iff)
    (fun _ _ _ _ _ => or_self_iff)

theorem union_empty_right (a : NodeList) : a.union NodeList.empty ≃ₙ a.cleanEdges :=
  (union_sem a _).equiv (cleanEdges_sem a) (fun _ => or_iff_left List.not_mem_nil)
    (fun _ => or_iff_left List.not_mem_nil) (fun s t d _ _ => or_iff_left (hasEdgeL_nil s t d))

theorem union_empty_left (a : NodeList) : NodeList.empty.union a ≃ₙ a.cleanEdges :=
  (union_sem _ a).equiv (cleanEdges_sem a) (fun _ => or_iff_right List.not_mem_nil)
    (fun _ => or_iff_right List.not_mem_nil) (fun s t d _ _ => or_iff_right (hasEdgeL_nil s t d))

/-- so for an edge-closed list the identity and idempotence laws above give `a` itself -/
theorem cleanEdges_equiv_of_closed (a : NodeList) (h : EdgesClosed a) : a.cleanEdges ≃ₙ a :=
  (cleanEdges_sem a).equiv (Sem.self h) (fun _ => .rfl) (fun _ => .rfl) (fun _ _ _ _ _ => .rfl)

/-- associativity. PARTIAL with respect to the property text: it is proved for operands whose
    edges are closed. For operands with dangling edges two clauses of the property contradict each
    other: no operation with the node and edge sets the first clause prescribes (`union_nodes`;
    edges of either operand *restricted to present nodes*, `union_edgeset`) is associative on those
    sets — see `finding_union_assoc_dangling` below, which uses nothing else of `union`, and
    DESIGN.md. -/
theorem union_assoc_partial (a b c : NodeList) (ha : EdgesClosed a) (hb : EdgesClosed b)
    (hc : EdgesClosed c) : (a.union b).union c ≃ₙ a.union (b.union c) :=
  (union_sem _ c).equiv (union_sem a _) (fun x => by simp only [(union_sem _ _).ids, or_assoc])
    (fun x => by simp only [(union_sem _ _).roots, or_assoc]) fun s t d _ _ => by
      -- an edge of an operand has its endpoints in that operand, so the inner restriction is no loss
      have := ha s t d; have := hb s t d; have := hc s t d
      simp only [(union_sem _ _).edges]; grind

/-- every union is edge-closed (so the partial law applies to unions of arbitrary lists) -/
theorem union_closed (a b : NodeList) : EdgesClosed (a.union b) := fun _ _ _ =>
  (union_sem a b).closed

/-! ### known finding: associativity fails when an operand has a dangling edge whose endpoints
    appear in a later operand (witness replayed on the implementation by the check) -/

def wA : NodeList := { edges := [{ ty := 5, src := "x", tos := ["x"] }] }
def wB : NodeList := {}
def wC : NodeList := { nodes := [{ id := "x" }] }

theorem finding_union_assoc_dangling :
    ¬ ((wA.union wB).union wC ≃ₙ wA.union (wB.union wC)) := by
  intro h
  have hR : (wA.union (wB.union wC)).HasEdge "x" 5 "x" := by
    rw [union_edgeset]
    refine ⟨Or.inl ⟨_, List.mem_singleton.mpr rfl, rfl, rfl, List.mem_singleton.mpr rfl⟩, ?_, ?_⟩ <;>
    · right; rw [union_nodes]; right; simp [wC, NodeList.ids]
  have hL := (h.edges "x" 5 "x").mpr hR
  rw [union_edgeset] at hL
  rcases hL.1 with h1 | h1
  · rw [union_edgeset] at h1
    rcases h1.2.1 with h2 | h2 <;> simp [wA, wB, NodeList.ids] at h2
  · simp [wC, NodeList.HasEdge, HasEdgeL] at h1

/-- non-vacuity: the hypothesis of the partial law is met by a cyclic list with a root -/
example : EdgesClosed { nodes := [{ id := "a" }, { id := "b" }],
                        edges := [{ ty := 5, src := "a", tos := ["b"] }, { ty := 10, src := "b", tos := ["a"] }],
                        roots := ["a"] } := by
  intro s t d h
  simp [NodeList.HasEdge, HasEdgeL] at h
  rcases h with ⟨rfl, _, rfl⟩ | ⟨rfl, _, rfl⟩ <;> simp [NodeList.ids]

/-- for every attribute of the schema: the second operand's value when non-empty, else the first's -/
theorem update_precedence (n m : Node) (hn : n.shaped) (hm : m.shaped) (i : Nat)
    (hi : i < Gen.Schema.nodeAttrs.length) :
    (n.update m).attrs[i]? =
      if (m.attrs[i]?.getD (.str "")).isEmpty then n.attrs[i]? else m.attrs[i]? :=
  update_attr n m hn hm i hi

/-- the in-place variant keeps the receiver's non-empty attributes and fills only its empty ones -/
theorem augment_precedence (n m : Node) (hn : n.shaped) (hm : m.shaped) (i : Nat)
    (hi : i < Gen.Schema.nodeAttrs.length) :
    (n.augment m).attrs[i]? =
      if (n.attrs[i]?.getD (.str "")).isEmpty && !(m.attrs[i]?.getD (.str "")).isEmpty
      then m.attrs[i]? else n.attrs[i]? := by
  obtain ⟨a, b, ha, hb, hz⟩ := zipAttrs_schema _ n m hn hm i hi
  rw [Node.augment, hz, ha, hb, (schema_covered _ (List.getElem_mem hi)).2]
  cases h : a.isEmpty <;> cases h' : b.isEmpty <;> simp [h, h']

/-- node-level clause of union: with unique identifiers, every node of the union is a node of
    the first operand updated by the second operand's node of the same identifier, a node of the
    first operand that the second lacks, or a node of the second that the first lacks -/
theorem union_node (a b : NodeList) (ha : a.ids.Nodup) (hb : b.ids.Nodup) (x : Node) :
    x ∈ (a.union b).nodes ↔
      (∃ p ∈ a.nodes, (∃ q ∈ b.nodes, q.id = p.id ∧ x = p.update q) ∨ (p.id ∉ b.ids ∧ x = p)) ∨
      (x ∈ b.nodes ∧ x.id ∉ a.ids) :=
  merged_nodes_char Node.update update_id a.nodes b.nodes ha hb x

theorem add_node (a b : NodeList) (ha : a.ids.Nodup) (hb : b.ids.Nodup) (x : Node) :
    x ∈ (a.add b).nodes ↔
      (∃ p ∈ a.nodes, (∃ q ∈ b.nodes, q.id = p.id ∧ x = p.augment q) ∨ (p.id ∉ b.ids ∧ x = p)) ∨
      (x ∈ b.nodes ∧ x.id ∉ a.ids) :=
  merged_nodes_char Node.augment augment_id a.nodes b.nodes ha hb x

end Protobom.C09
