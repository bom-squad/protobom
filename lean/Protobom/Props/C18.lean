/-
  C18 — Reader and writer configuration is isolated per instance.
  Theorems about the options heap `Model/Opts.lean` (objects with pointers into cells) and its
  value-level specification; the refinement is `Proofs/Opts.lean`.
-/
import Protobom.Proofs.Opts
import Protobom.Gen.Opts
import Protobom.Gen.Skel
import Protobom.Expect.Skel

namespace Protobom.C18
open Protobom.Opts Gen

/-- every reference-typed field of the writer's / reader's Options struct is re-allocated by
    `clone()`, `clone()` starts from a value copy, and `New` starts from `defaultOptions.clone()` -/
theorem writer_clone_deep :
    (∀ f ∈ Gen.Opts.writer_refFields, f ∈ Gen.Opts.writer_cloneFresh) ∧
    Gen.Opts.writer_cloneCopiesValue = true ∧ Gen.Opts.writer_newClonesDefaults = true := by decide

theorem reader_clone_deep :
    (∀ f ∈ Gen.Opts.reader_refFields, f ∈ Gen.Opts.reader_cloneFresh) ∧
    Gen.Opts.reader_cloneCopiesValue = true ∧ Gen.Opts.reader_newClonesDefaults = true := by decide

theorem skel_New : Skel.writer__New = Expect.Skel.writer__New ∧ Skel.reader__New = Expect.Skel.reader__New := ⟨rfl, rfl⟩
theorem skel_clone :
    Skel.writer_Options_clone = Expect.Skel.writer_Options_clone ∧
    Skel.reader_Options_clone = Expect.Skel.reader_Options_clone := ⟨rfl, rfl⟩

/-! ### the initial state: the package-level defaults, no instance -/

/-- defaults with `cells.length` option structs / maps, each in its own cell -/
def init (format : String) (cells : List Cell) : St :=
  { store := fun p => cells.getD p [], next := cells.length,
    defaults := { format := format, ptrs := List.range cells.length }, insts := [] }

theorem init_inv (format : String) (cells : List Cell) : Inv (init format cells) := by
  have hall : allPtrs (init format cells) = List.range cells.length := by simp [allPtrs, objs, init]
  rw [Opts.Inv, hall]
  exact ⟨List.nodup_range, fun _ => List.mem_range.mp⟩

theorem init_abs (format : String) (cells : List Cell) :
    absD (init format cells) = (format, cells) ∧ abs (init format cells) = [] := by
  refine ⟨?_, rfl⟩
  simp only [absD, deref, init, Prod.mk.injEq, true_and]
  apply List.ext_getElem
  · simp
  · intro n h1 h2
    simp [List.getD_eq_getElem?_getD, h2]

/-! ### the property, for every history -/

/-- **isolation**: after any sequence of constructor calls (with any options) and writes through
    the public option pointers of any instances, every instance reads what the value-level
    specification says — and that specification treats configurations as values -/
theorem config_is_value (format : String) (cells : List Cell) (ops : List Op) :
    abs (run (init format cells) ops) = specRun (format, cells) [] ops ∧
    absD (run (init format cells) ops) = (format, cells) := by
  obtain ⟨_, h2, h3⟩ := run_refines ops (init format cells) (init_inv format cells)
  rw [(init_abs format cells).1, (init_abs format cells).2] at h3
  exact ⟨h3, h2.trans (init_abs format cells).1⟩

theorem new_keeps_others (d : Cfg) (insts : List Cfg) (settings : List Setting) (j : Nat) (h : j < insts.length) :
    (specStep d insts (.new settings))[j]? = insts[j]? := by
  simp only [specStep]
  exact List.getElem?_append_left h

theorem new_from_defaults (d : Cfg) (insts : List Cfg) (settings : List Setting) :
    (specStep d insts (.new settings))[insts.length]? = some (settings.foldl specSetting d) := by
  simp [specStep]

theorem new_plain_is_defaults (d : Cfg) (insts : List Cfg) :
    (specStep d insts (.new []))[insts.length]? = some d :=
  new_from_defaults d insts []

theorem mutate_keeps_others (d : Cfg) (insts : List Cfg) (i k : Nat) (key val : String) (j : Nat) (h : j ≠ i) :
    (specStep d insts (.mutate i k key val))[j]? = insts[j]? := by
  simp only [specStep]
  split
  · split
    · exact List.getElem?_set_ne (Ne.symm h)
    · rfl
  · rfl

/-- so an instance that no later write goes through stays what it is -/
theorem specRun_keeps (d c : Cfg) (j : Nat) (ops : List Op)
    (hops : ∀ op ∈ ops, ∀ i k key val, op = Op.mutate i k key val → i ≠ j) (insts : List Cfg)
    (hj : insts[j]? = some c) : (specRun d insts ops)[j]? = some c :=
  List.foldlRecOn ops (specStep d) (motive := fun l => l[j]? = some c) hj fun l hl op hop => by
    cases op with
    | new settings => rw [new_keeps_others _ _ _ _ (List.getElem?_eq_some_iff.mp hl).1]; exact hl
    | mutate i k key val =>
      rw [mutate_keeps_others _ _ _ _ _ _ _ (Ne.symm (hops _ hop i k key val rfl))]; exact hl

/-- in heap terms: whatever happens later — constructors with any options, writes through other
    instances — an instance built without options keeps reading the defaults -/
theorem plain_instance_stays_default (format : String) (cells : List Cell) (before after : List Op)
    (hafter : ∀ op ∈ after, ∀ i k key val, op = Op.mutate i k key val → i ≠ (specRun (format, cells) [] before).length) :
    (abs (run (init format cells) (before ++ [.new []] ++ after)))[(specRun (format, cells) [] before).length]? =
      some (format, cells) := by
  rw [(config_is_value format cells _).1, specRun, List.foldl_append, List.foldl_append]
  exact specRun_keeps _ _ _ after hafter _ (new_plain_is_defaults _ _)

/-! ### options of a single call -/

/-- `WriteStreamWithOptions`: the format of the call, else the instance's -/
def effectiveFormat (inst call : String) : String := if call = "" then inst else call

/-- `WriteStreamWithOptions` / `ParseStreamWithOptions`: the call's struct when given, else the
    instance's, else the defaults' -/
def effectiveCell (dflt inst call : Option Cell) : Option Cell :=
  match call with
  | some c => some c
  | none => match inst with
    | some c => some c
    | none => dflt

theorem call_options_override (d i : Option Cell) (c : Cell) : effectiveCell d i (some c) = some c := rfl
theorem call_options_fallback (d : Option Cell) (c : Cell) : effectiveCell d (some c) none = some c := rfl

/-- non-vacuity: three instances; the first is built with options and later written through, the
    third is built with an option; the second, built without options, still reads the defaults -/
example : (abs (run (init "" [[("Indent", "4")], []])
    [.new [.format "spdx", .replace 0 [("Indent", "1")]], .new [], .mutate 0 0 "Indent" "9", .new [.setKey 1 "k" "v"]]))[1]? =
    some ("", [[("Indent", "4")], []]) := by decide

end Protobom.C18
