/-
  C13 — Equality and checksums form a sound, order-insensitive equivalence.
  `H` is the checksum function (SHA-256 in the implementation); it is a parameter, so every
  statement holds for any hash function, and agreement is stated modulo an exhibited collision.
-/
import Protobom.Proofs.Equal
import Protobom.Proofs.EdgeDiscr

namespace Protobom.C13
open Protobom Gen

theorem node_equal_refl (a : Node) : a.equal a = true := Node.equal_iff.mpr rfl
theorem node_equal_symm (a b : Node) (h : a.equal b = true) : b.equal a = true :=
  Node.equal_iff.mpr (Node.equal_iff.mp h).symm
theorem node_equal_trans (a b c : Node) (h1 : a.equal b = true) (h2 : b.equal c = true) :
    a.equal c = true := Node.equal_iff.mpr ((Node.equal_iff.mp h1).trans (Node.equal_iff.mp h2))

theorem edge_equal_refl (a : Edge) : a.equal a = true := Edge.equal_iff.mpr rfl
theorem edge_equal_symm (a b : Edge) (h : a.equal b = true) : b.equal a = true :=
  Edge.equal_iff.mpr (Edge.equal_iff.mp h).symm
theorem edge_equal_trans (a b c : Edge) (h1 : a.equal b = true) (h2 : b.equal c = true) :
    a.equal c = true := Edge.equal_iff.mpr ((Edge.equal_iff.mp h1).trans (Edge.equal_iff.mp h2))

theorem nodelist_equal_refl (H : String → String) (a : NodeList) : NodeList.equalWith H a a = true :=
  (equalWith_iff H a a).mpr ⟨⟨rfl, rfl, rfl⟩, rfl, rfl, fun _ => rfl⟩
theorem nodelist_equal_symm (H : String → String) (a b : NodeList) (h : NodeList.equalWith H a b = true) :
    NodeList.equalWith H b a = true := by
  obtain ⟨⟨e1, e2, e3⟩, r, e, n⟩ := (equalWith_iff H a b).mp h
  exact (equalWith_iff H b a).mpr ⟨⟨e1.symm, e2.symm, e3.symm⟩, r.symm, e.symm, fun k => (n k).symm⟩
theorem nodelist_equal_trans (H : String → String) (a b c : NodeList)
    (h1 : NodeList.equalWith H a b = true) (h2 : NodeList.equalWith H b c = true) :
    NodeList.equalWith H a c = true := by
  obtain ⟨⟨e1, e2, e3⟩, r, e, n⟩ := (equalWith_iff H a b).mp h1
  obtain ⟨⟨f1, f2, f3⟩, r', e', n'⟩ := (equalWith_iff H b c).mp h2
  exact (equalWith_iff H a c).mpr ⟨⟨e1.trans f1, e2.trans f2, e3.trans f3⟩, r.trans r', e.trans e',
    fun k => (n k).trans (n' k)⟩

/-! ### agreement with checksums (`Checksum = H ∘ flat`) -/

theorem equal_implies_checksum (H : String → String) (a b : Node) (h : a.equal b = true) :
    H a.flat = H b.flat := congrArg H (Node.equal_iff.mp h)

theorem checksum_implies_equal_or_collision (H : String → String) (a b : Node) (h : H a.flat = H b.flat) :
    a.equal b = true ∨ (a.flat ≠ b.flat ∧ H a.flat = H b.flat) := by
  by_cases he : a.flat = b.flat
  · exact .inl (Node.equal_iff.mpr he)
  · exact .inr ⟨he, h⟩

/-- permuting set-valued attributes, map entries, suppliers, originators and references of a
    node does not change its flattened string, hence neither equality nor its checksum -/
theorem node_order_insensitive (a b : Node) (h : Node.PermEq a b) : a.equal b = true :=
  Node.equal_iff.mpr (flat_permEq h)

theorem edge_order_insensitive (e f : Edge) (hs : e.src = f.src) (ht : e.ty = f.ty) (hp : e.tos.Perm f.tos) :
    e.equal f = true := Edge.equal_iff.mpr (edge_flat_perm hs ht hp)

/-- node-list equality ignores the order of nodes (identifiers unique), edges, edge targets and roots -/
theorem nodelist_order_insensitive (H : String → String) (a b : NodeList) (hn : a.nodes.Perm b.nodes)
    (hnd : a.ids.Nodup) (es : List Edge) (he1 : a.edges.Perm es) (he2 : EdgeListEq es b.edges)
    (hr : a.roots.Perm b.roots) : NodeList.equalWith H a b = true := by
  rw [equalWith_iff]
  refine ⟨⟨?_, hn.length_eq, hr.length_eq⟩, sortStrings_perm hr, ?_, ?_⟩
  · rw [he1.length_eq, edgeListEq_length he2]
  · rw [← edgeListEq_flat he2]
    exact sortStrings_perm (he1.map Edge.flat)
  · intro k
    rw [indexed_perm a b hn hnd k]

/-! ### discrimination -/

/-- the treatment `Node.flatString` gives each kind of attribute -/
def flatFormOk (goName : String) (k : Kind) : Bool :=
  let form := (NodeFields.flatTable.lookup (protoNameOf goName)).getD
                (if NodeFields.flatHasScalarDefault then "scalar" else "none")
  match k with
  | .str => form = "scalar"
  | .strs => form = "slice"
  | .enums => form = "slice"
  | .imap => form = "map" ∨ form = "sortedkeys"
  | .date => form = "unixdate"
  | .persons => form = "elemflat"
  | .refs => form = "elemflat"

/-- every attribute of the schema is flattened with a treatment that fits its kind (this is what
    fails when a field is added to the schema without being handled, or a case is dropped) -/
theorem flat_covers_schema : ∀ fk ∈ Schema.nodeAttrs, flatFormOk fk.1 fk.2 = true := by decide +kernel

/-- every message field the schema has is one the model knows -/
theorem schema_kinds_known : ∀ f ∈ Schema.nodeAllFields, f.2.2 ≠ "unknown" := by decide

theorem person_fields_known :
    Schema.personFields = [("Name", "str"), ("IsOrg", "bool"), ("Email", "str"), ("Url", "str"),
                           ("Phone", "str"), ("Contacts", "persons")] := rfl

theorem extref_fields_known :
    Schema.extRefFields = [("Url", "str"), ("Comment", "str"), ("Authority", "str"), ("Hashes", "imap"),
                           ("Type", "enum")] := rfl

/-- PARTIAL (pair level, scalar attributes): two different values of a scalar attribute yield
    different pairs. Injectivity of the *joined* string is not proved: values containing the
    separators (`:`, `+`, brackets, field-name markers) and multi-entry hash maps can collide
    (known finding KF-C13-separators); single-attribute discrimination over every schema field is
    decided by the correspondence stream `eq` and its oracle. -/
theorem scalar_pair_discriminates_partial (f : String) (s t : String) (hs : s ≠ "") (ht : t ≠ "")
    (hform : flatFormOk f .str = true) (h : attrPairs f (.str s) = attrPairs f (.str t)) : s = t := by
  unfold flatFormOk at hform
  simp only [decide_eq_true_eq] at hform
  unfold attrPairs at h
  simp only [hform, Val.isEmpty, beq_iff_eq, hs, ht, if_false, if_true, List.cons.injEq, and_true] at h
  exact (String.append_right_inj _).mp h

/-- the known finding, as a kernel-checked witness: two hash maps that differ flatten to the same
    string, `"1:a12:c"` (`flatStringMap` concatenates the entries without a separator), so two nodes
    that differ only in them compare equal -/
theorem finding_hash_map_collision :
    flatMap' [(1, "a"), (12, "c")] = flatMap' [(1, "a1"), (2, "c")] := by
  simp [flatMap', sortStrings, List.mergeSort, List.MergeSort.Internal.splitInTwo, List.merge]
  decide

/-! ### edges: equality discriminates

For nodes the flattened string is not injective (the recorded separator finding above). For edges it
is, as soon as the identifiers are free of the two separator characters the format uses. -/

/-- **edge equality is exactly "same source, same type, same multiset of targets"** for edges of a
    type the schema defines whose source has no `:` and whose targets are non-empty and have no `+`:
    in particular an edge with a repeated target never equals an edge that repeats another one, and
    the relation cannot depend on which operand is the receiver -/
theorem edge_equal_iff (e f : Edge)
    (hs : ':' ∉ e.src.toList) (hs' : ':' ∉ f.src.toList)
    (ht : e.ty ∈ Schema.edgeTypes.map (·.2)) (ht' : f.ty ∈ Schema.edgeTypes.map (·.2))
    (hto : ∀ t ∈ e.tos, t ≠ "" ∧ '+' ∉ t.toList) (hto' : ∀ t ∈ f.tos, t ≠ "" ∧ '+' ∉ t.toList) :
    e.equal f = true ↔ (e.src = f.src ∧ e.ty = f.ty ∧ e.tos.Perm f.tos) :=
  ⟨fun h => edge_flat_discriminates e f hs hs' ht ht' hto hto' (Edge.equal_iff.mp h),
   fun ⟨h1, h2, h3⟩ => edge_order_insensitive e f h1 h2 h3⟩

/-- non-vacuity, on targets that differ only in multiplicity: `[a, a, b]` against `[a, b, b]` -/
example : ({ src := "app", ty := 5, tos := ["lib-a", "lib-a", "lib-b"] } : Edge).equal
    { src := "app", ty := 5, tos := ["lib-a", "lib-b", "lib-b"] } = false := by
  rw [Bool.eq_false_iff]
  intro h
  have := (edge_equal_iff _ _ (by decide) (by decide) (by decide) (by decide) (by decide) (by decide)).mp h
  have hc := this.2.2.count_eq "lib-a"
  simp at hc

example : (5 : Int) ∈ Schema.edgeTypes.map (·.2) ∧ ':' ∉ "app".toList ∧
    (∀ t ∈ ["lib-a", "lib-a", "lib-b"], t ≠ "" ∧ '+' ∉ t.toList) := by decide

end Protobom.C13
