/-
  C03 — Translation never silently drops or invents nodes, edges or references.
  The theorems speak of the serializer models; decoding the written bytes independently of
  protobom's readers is the Go-side oracle of the streams `spdx` and `cdx`. CycloneDX: on forests
  every node is emitted exactly once (`cdx_forest_each_node_exactly_once`), containment is nesting,
  dependency entries name known nodes only (`cdx_no_dangling_dependency`). Identity attributes across
  a change of format (`spdx_then_cdx_identity`, `cdx_then_spdx_identity`): a package node read from
  one format and written in the other keeps identifier, name, version and the hashes both formats
  support; the package identifiers are proved for SPDX first, CycloneDX second only.
-/
import Protobom.Proofs.RtForest
import Protobom.Proofs.CrossFormat
import Protobom.Proofs.Spdx

namespace Protobom.C03
open Protobom Gen

/-! ### SPDX: one element per node, a relationship for every edge target, nothing else -/

/-- every node is emitted: exactly once (as a package or as a file) when its kind is PACKAGE or FILE -/
theorem spdx_elements (d : Document) (md : Metadata) (nl : NodeList) (s : Spdx.Doc)
    (hmd : d.metadata = some md) (hnl : d.nodeList = some nl) (hs : Spdx.serSPDX d = .ok s)
    (hk : ∀ n ∈ nl.nodes, n.typ = 0 ∨ n.typ = 1) :
    (s.packages.map (·.id) ++ s.files.map (·.id)).Perm nl.ids := by
  unfold Spdx.serSPDX at hs
  rw [hmd, hnl] at hs
  simp only [Outcome.ok.injEq] at hs
  subst hs
  simp only [List.map_map, NodeList.ids]
  -- an element carries its node's identifier
  show ((nl.nodes.filter (·.typ ≠ 1)).map (·.id) ++ (nl.nodes.filter (·.typ ≠ 0)).map (·.id)).Perm _
  rw [← List.map_append]
  exact (Spdx.packages_files_perm _ hk).map _

/-- a relationship is written exactly for every target of every edge, and DOCUMENT DESCRIBES for every root -/
theorem spdx_relationships (nl : NodeList) (r : Spdx.Rel) :
    r ∈ Spdx.relsOf nl ↔
      (∃ e ∈ nl.edges, ∃ x ∈ e.tos, r = { a := e.src, rel := Spdx.edgeToSPDX2 e.ty, b := x }) ∨
      (∃ x ∈ nl.roots, r = { a := "DOCUMENT", rel := "DESCRIBES", b := x }) := by
  simp only [Spdx.relsOf, List.mem_append, List.mem_flatMap, List.mem_map, eq_comm (a := r)]

/-- in a well-formed document no relationship refers to an element that is not emitted -/
theorem spdx_no_dangling (nl : NodeList) (hwf : nl.WF) (r : Spdx.Rel) (hr : r ∈ Spdx.relsOf nl) :
    (r.a = "DOCUMENT" ∨ r.a ∈ nl.ids) ∧ r.b ∈ nl.ids := by
  rcases (spdx_relationships nl r).mp hr with ⟨e, he, x, hx, rfl⟩ | ⟨x, hx, rfl⟩
  · exact ⟨Or.inr (hwf.src e he), hwf.dst e he x hx⟩
  · exact ⟨Or.inl rfl, hwf.roots x hx⟩

/-! ### CycloneDX: the dependency targets of one edge -/

/-- the loop of `pass1` over the targets of one dependsOn edge: when all are known it succeeds with
    exactly the edge's targets, de-duplicated. (Nothing is stated here about `pass1` as a whole.) -/
theorem cdx_dependency_targets (ts : List String) (known : String → Bool) (hk : ∀ t ∈ ts, known t = true) :
    ∃ r, ts.foldl (fun (a : Option (List String)) t =>
        a.bind fun ts => if t ∈ ts then some ts else if known t then some (ts ++ [t]) else none) (some []) = some r ∧
      (∀ x, x ∈ r ↔ x ∈ ts) ∧ r.Nodup := by
  refine ⟨addNew [] ts, ?_, fun x => by simpa using mem_addNew [] ts x, addNew_nodup ts [] List.nodup_nil⟩
  rw [Cdx.depTargets_fold known ts [] (fun _ h => nomatch h), if_pos (List.all_eq_true.mpr hk)]

/-! ### CycloneDX: no node is dropped from the component forest -/

/-- in a containment forest with one root, every known node other than the root sits, with its
    complete subtree, inside the complete subtree `T … t` of a node `t` that is neither the root nor
    contained in a non-root node. By `serCDX_forest` these `T … t` are the top-level components the
    serializer emits (before `clearAutoRefs` blanks generated references, which is done on
    purpose), and the root is the metadata component. -/
theorem cdx_every_node_emitted (children : String → List String) (c0 : String → Cdx.Component) (ht : String → Nat)
    (D : String → Prop) (root : String) (F : Cdx.Forest children ht D [root]) (bound : Nat) (hb : ∀ x, ht x < bound)
    (x : String) (hD : D x) (hx : x ≠ root) :
    ∃ t, D t ∧ ¬ (t = root ∨ ∃ p, p ≠ root ∧ D p ∧ t ∈ children p) ∧
      Cdx.Sub (Cdx.T children c0 ht x) (Cdx.T children c0 ht t) :=
  Cdx.every_node_under_a_top children c0 ht D root F bound hb
    (fun y => y = root ∨ ∃ p, p ≠ root ∧ D p ∧ y ∈ children p) (fun _ => Iff.rfl) bound x (by omega) hD hx

/-- and containment is expressed as nesting: the component of a node has, as its nested
    components, exactly the complete subtrees of the nodes it contains (in the order the first pass
    recorded them) -/
theorem cdx_containment_is_nesting (children : String → List String) (c0 : String → Cdx.Component) (ht : String → Nat)
    (hlt : ∀ id t, t ∈ children id → ht t < ht id) (hk : ∀ x, (c0 x).kids = []) (x : String) :
    (Cdx.T children c0 ht x).kids = (children x).map (Cdx.T children c0 ht) :=
  Cdx.T_kids children c0 ht hlt hk x

/-! ### CycloneDX: exactly once on forests, and no dangling dependency -/

/-- **every node exactly once when containment is a forest**: the references of everything the
    CycloneDX serializer emits for a one-rooted containment forest — the metadata component and the
    component forest with all nested components — are the identifiers of the document, each once -/
theorem cdx_forest_each_node_exactly_once (d : Document) (md : Metadata) (nl : NodeList) (root : String) (rootNode : Node)
    (lcs : List Cdx.Lifecycle) (p1 : Cdx.Pass1) (ht : String → Nat)
    (hmd : d.metadata = some md) (hnl : d.nodeList = some nl) (hroots : nl.roots = [root])
    (hroot : nl.getNodeByID root = some rootNode) (hrid : rootNode.id = root)
    (hlc : Cdx.serCDX.mapLifecycles md.docTypes = .ok lcs)
    (hp1 : Cdx.pass1 (fun id => (Cdx.dictOf nl.nodes).any (·.1 = id)) nl.edges = .ok p1)
    (F : Cdx.Forest (Cdx.childrenOf p1) ht (fun x => ((Cdx.dictOf nl.nodes).lookup x).isSome = true) [root])
    (hht : ∀ x, ht x < (Cdx.dictOf nl.nodes).length + 2)
    (hids : ∀ x, ((Cdx.dictOf nl.nodes).lookup x).isSome = true → Cdx.isAutoRef x = false) :
    ∃ (b : Cdx.Bom) (rootC : Cdx.Component), Cdx.serCDX d = .ok b ∧ b.metaComponent = some rootC ∧
      (rootC.refs ++ Cdx.refsL b.components).Nodup ∧
      ∀ x, x ∈ rootC.refs ++ Cdx.refsL b.components ↔ x ∈ nl.ids := by
  have H := Cdx.ForestDoc.mk hmd hnl hroots hroot hrid hlc hp1 F hht
  obtain ⟨b, hser, hmeta, hall⟩ := H.ser_refs hids
  exact ⟨b, _, hser, hmeta, hall ▸ H.preorder.1, fun x => hall ▸ H.preorder.2 x⟩

/-- **no reference to an element that was not emitted**: every dependency entry the serializer
    writes (`serCDX` writes `p1.deps`; whenever it succeeds, for any document) names known nodes
    only — as its `ref` and in its `dependsOn` list -/
theorem cdx_no_dangling_dependency (known : String → Bool) (edges : List Edge) (p1 : Cdx.Pass1)
    (h : Cdx.pass1 known edges = .ok p1) : ∀ st ∈ p1.deps, known st.1 = true ∧ ∀ t ∈ st.2, known t = true :=
  Cdx.pass1_deps_known known edges p1 h

/-! ### identity attributes of documents obtained by parsing the other format -/

/-- **SPDX 2.3 first, CycloneDX 1.`v` second**: a package node that was written as SPDX and read
    back, then written as CycloneDX and read back, has the identifier, the name and the version it
    started with (`0.0.0` is cyclonedx-go's text for a missing version below 1.4), its hash map over
    the algorithms both formats have entry for entry, and its purl and CPE under their keys -/
theorem spdx_then_cdx_identity (v : Nat) (n : Node) (hid : n.id ≠ "")
    (hs : ∀ kv ∈ n.hashes, kv.1 ∈ Spdx.spdxHashes) (hc : ∀ kv ∈ n.hashes, kv.1 ∈ Cdx.cdxHashes)
    (hnd : (n.hashes.map (·.1)).Nodup)
    (hr : ∀ e ∈ Spdx.Node.refs n "ExternalReferences", e.typ ∈ Spdx.spdxRefTypes ∧ e.url ≠ "")
    (hk : ∀ kv ∈ n.identifiers, kv.1 ∈ [1, 2, 3, 4]) (hnd' : (n.identifiers.map (·.1)).Nodup) :
    let m := Cdx.rtNode v (Spdx.rtPkg n)
    m.id = n.id ∧
    Spdx.Node.str m "Name" = Spdx.Node.str n "Name" ∧
    Spdx.Node.str m "Version" = (if v < 4 ∧ Spdx.Node.str n "Version" = "" then "0.0.0" else Spdx.Node.str n "Version") ∧
    m.hashes = sortedByKey n.hashes ∧ (sortedByKey n.hashes).Perm n.hashes ∧
    m.identifiers = Cdx.compIds ((n.identifiers.lookup 1).getD "")
      ((n.identifiers.lookup 3).getD ((n.identifiers.lookup 2).getD "")) := by
  refine ⟨Cdx.rtNode_id v _ hid, (Cross.rtNode_name v _).trans (Cross.rtPkg_name n), ?_,
    Cross.hashes_then n (Spdx.rtPkg_hashes n) (Cross.rtNode_hashes v _) hs hc hnd, sortedByKey_perm_self n.hashes hnd, ?_⟩
  · rw [Cross.rtNode_version, Cross.rtPkg_version]
  · have hi : (Spdx.rtPkg n).identifiers = _ :=
      (Spdx.Node.mapAttr_of_attr (Spdx.rtPkg_attr_at n 21 rfl)).trans (Spdx.refsIn_packageOf n hr hk hnd').2
    simp only [Cross.rtNode_identifiers, hi, lookup_sortedByKey n.identifiers hnd']

/-- **CycloneDX 1.`v` first, SPDX 2.3 second**: identifier, name, version and the hash map -/
theorem cdx_then_spdx_identity (v : Nat) (n : Node) (hid : n.id ≠ "")
    (hs : ∀ kv ∈ n.hashes, kv.1 ∈ Spdx.spdxHashes) (hc : ∀ kv ∈ n.hashes, kv.1 ∈ Cdx.cdxHashes)
    (hnd : (n.hashes.map (·.1)).Nodup) :
    let m := Spdx.rtPkg (Cdx.rtNode v n)
    m.id = n.id ∧
    Spdx.Node.str m "Name" = Spdx.Node.str n "Name" ∧
    Spdx.Node.str m "Version" = (if v < 4 ∧ Spdx.Node.str n "Version" = "" then "0.0.0" else Spdx.Node.str n "Version") ∧
    m.hashes = sortedByKey n.hashes := by
  exact ⟨Cdx.rtNode_id v n hid, (Cross.rtPkg_name _).trans (Cross.rtNode_name v n),
    (Cross.rtPkg_version _).trans (Cross.rtNode_version v n),
    Cross.hashes_then n (Cross.rtNode_hashes v n) (Spdx.rtPkg_hashes _) hc hs hnd⟩

/-- sorting a key-unique map by key does not change what a key is bound to: the purl / CPE /
    hash value a consumer looks up in the map that came back is the one that was written -/
theorem lookup_after_roundtrip (m : List (Int × String)) (hnd : (m.map (·.1)).Nodup) (k : Int) :
    (sortedByKey m).lookup k = m.lookup k := lookup_sortedByKey m hnd k

def exCross : Node := { id := "pkg-a", typ := 0, attrs := Schema.nodeAttrs.map (fun fk =>
  if fk.1 = "Hashes" then Val.imap [(3, "aa"), (1, "bb")]
  else if fk.1 = "Identifiers" then Val.imap [(3, "cpe:2.3:a:b:c"), (1, "pkg:npm/a@1")]
  else if fk.1 = "Name" then Val.str "a" else fk.2.zero) }

/-- non-vacuity: a node with two shared hash algorithms, a purl and a CPE 2.3 meets the premises of
    `spdx_then_cdx_identity` -/
example : exCross.id ≠ "" ∧ (∀ kv ∈ exCross.hashes, kv.1 ∈ Spdx.spdxHashes) ∧ (∀ kv ∈ exCross.hashes, kv.1 ∈ Cdx.cdxHashes) ∧
    (exCross.hashes.map (·.1)).Nodup ∧ (∀ e ∈ Spdx.Node.refs exCross "ExternalReferences", e.typ ∈ Spdx.spdxRefTypes ∧ e.url ≠ "") ∧
    (∀ kv ∈ exCross.identifiers, kv.1 ∈ [1, 2, 3, 4]) ∧ (exCross.identifiers.map (·.1)).Nodup := by decide

end Protobom.C03
