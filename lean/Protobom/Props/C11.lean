/-
  C11 — Queries and value-returning operations leave their operands unchanged.

  What is proved here is the *logic*: an operation all of whose writes go to storage the call
  allocated itself (an operand-pure one) cannot change any pre-existing storage (frame theorem),
  and any number of such operations on one shared document have no pair of conflicting accesses on
  shared storage, in every interleaving (race-freedom). Whether each public read-only operation of
  the library *is* operand-pure is decided on the real objects by the correspondence stream `alias`
  (deep, order-sensitive snapshots including the spare capacity of every slice, before and after
  every operation) and by the race detector; at the identity layer (values with allocation tags,
  `Model/Alias.lean`) the `Copy` family is modelled and is pure by construction (C12 proves its
  results are fresh).
-/
import Protobom.Model.Heap
import Protobom.Proofs.Alias

namespace Protobom.C11
open Protobom.Heap

theorem step_next_mono (s : St) (e : Event) : s.next ≤ (step s e).next := by
  cases e <;> simp [step]

theorem run_next_mono (s : St) (es : List Event) : s.next ≤ (run s es).next :=
  List.foldlRecOn es step (Nat.le_refl _) fun b hb e _ => Nat.le_trans hb (step_next_mono b e)

/-- the frame theorem for any bound that stays below the moving allocation counter -/
theorem run_frame (base : Nat) (es : List Event) : ∀ s : St, base ≤ s.next → WritesFresh base es →
    ∀ t, t < base → (run s es).store t = s.store t := by
  induction es with
  | nil => intro s _ _ t _; rfl
  | cons e es ih =>
    intro s hb hw t ht
    refine (ih (step s e) (Nat.le_trans hb (step_next_mono s e))
      (fun e' he' => hw e' (List.mem_cons_of_mem _ he')) t ht).trans ?_
    have he := hw e List.mem_cons_self
    cases e with
    | read _ => rfl
    | write u v => have : base ≤ u := he; simp [step, show t ≠ u by omega]
    | alloc v => simp [step, show t ≠ s.next by omega]

/-- frame theorem: if every write of a call goes to a tag the call allocated (tags ≥ the counter
    at entry), then all storage that existed before the call is unchanged after it — whatever the
    call reads, allocates or writes elsewhere. (Snapshots of every operand taken before and after
    are therefore equal.) -/
theorem operand_pure_preserves (s : St) (es : List Event) (h : WritesFresh s.next es) :
    ∀ t, t < s.next → (run s es).store t = s.store t :=
  run_frame s.next es s (Nat.le_refl _) h

/-- concurrency: several calls run on one shared store whose pre-existing part is `[0, base)`.
    Call `i` owns the fresh region `own i` (disjoint regions). If every write of every call goes
    to its own region and no call touches another call's region, then no two events of different
    calls conflict — in any interleaving, since conflicts are defined on pairs of events. -/
theorem operand_pure_calls_race_free (base : Nat) (own : Nat → Nat → Prop) (traces : Nat → List Event)
    (hdisj : ∀ i j t, i ≠ j → own i t → ¬ own j t)
    (hfresh : ∀ i t, own i t → base ≤ t)
    (hwrites : ∀ i, ∀ e ∈ traces i, match e with | .write t _ => own i t | _ => True)
    (hreads : ∀ i, ∀ e ∈ traces i, match e with | .read t => t < base ∨ own i t | _ => True) :
    ∀ i j, i ≠ j → ∀ e ∈ traces i, ∀ f ∈ traces j, ¬ conflict e f := by
  -- a write of one call goes to a tag that no event of another call touches
  have key : ∀ i j, i ≠ j → ∀ t v, Event.write t v ∈ traces i → ∀ f ∈ traces j, f.tag? = some t → False := by
    intro i j hij t v he f hf htag
    have ho : own i t := hwrites i _ he
    cases f with
    | read u =>
      cases htag
      rcases hreads j _ hf with h | h
      · have := hfresh i t ho; omega
      · exact hdisj i j t hij ho h
    | write u w => cases htag; exact hdisj i j t hij ho (hwrites j _ hf)
    | alloc w => cases htag
  intro i j hij e he f hf hc
  cases e <;> cases f <;> simp only [conflict] at hc <;> subst hc
  · exact key j i (Ne.symm hij) _ _ hf _ he rfl
  · exact key i j hij _ _ he _ hf rfl
  · exact key i j hij _ _ he _ hf rfl

/-- non-vacuity: a call that allocates a result and writes into it is operand-pure -/
example : WritesFresh 3 [.read 0, .alloc ["x"], .write 3 ["y"], .read 2] := by
  intro e he
  simp only [List.mem_cons, List.not_mem_nil, or_false] at he
  rcases he with rfl | rfl | rfl | rfl <;> simp

/-- at the identity layer every tag of a deep copy made at counter `s` is fresh (at least `s`); that
    the operand is unchanged needs no theorem, the model being functional -/
theorem copy_allocates_fresh (o : L2.Obj) (s : Nat) : ∀ t ∈ (o.refresh s).1.tags, s ≤ t :=
  fun t ht => ((L2.refresh_spec o s).1.2 t ht).1

end Protobom.C11
