/-
  C04 — Parsers are total on untrusted input.
  Theorems about `Model/Parse.lean`: for every decoded structure, with any set of nil pointers the
  decoders can leave, the conversion is an `ok` with metadata and node list or an `err`, never a
  panic — given the nil guards that the extractor finds in the current source.
-/
import Protobom.Model.Write
import Protobom.Proofs.Sniff
import Protobom.Proofs.Assoc
import Protobom.Gen.Skel
import Protobom.Expect.Skel

namespace Protobom.C04
open Protobom Protobom.Parse Gen

/-! ### tie to the source: every dereference site is guarded in the current tree -/

/-- one evaluation for all site tables of the reader and the writer and for the recover sites: the
    kernel decodes each key of `Guards.table` once instead of once per table -/
theorem all_sites_guarded :
    (∀ tbl ∈ [cdxSites, spdxSites, Write.spdxSites, Write.cdxSites, Write.writerSites],
      ∀ e ∈ tbl, ∀ s ∈ e.2, guardPresent s = true) ∧
    recoverSites.all guardPresent = true := by decide +kernel

theorem cdx_sites_guarded : ∀ e ∈ cdxSites, ∀ s ∈ e.2, guardPresent s = true :=
  all_sites_guarded.1 _ (.head _)
theorem spdx_sites_guarded : ∀ e ∈ spdxSites, ∀ s ∈ e.2, guardPresent s = true :=
  all_sites_guarded.1 _ (.tail _ (.head _))
theorem recover_guarded : recoverSites.all guardPresent = true := all_sites_guarded.2

theorem skel_ParseStreamWithOptions :
    Skel.reader_Reader_ParseStreamWithOptions = Expect.Skel.reader_Reader_ParseStreamWithOptions := rfl
theorem skel_readSPDXJSON :
    Skel.unserializers__readSPDXJSON = Expect.Skel.unserializers__readSPDXJSON := rfl

/-! ### no nil set reaches an unguarded dereference -/

theorem unguarded_none (tbl : List (String × List Site))
    (hg : ∀ e ∈ tbl, ∀ s ∈ e.2, guardPresent s = true) (nils : List String) :
    unguarded tbl nils = none := by
  rw [unguarded, List.find?_eq_none]
  intro s hs
  obtain ⟨n, _, hs⟩ := List.mem_flatMap.mp hs
  cases hl : tbl.lookup n with
  | none => rw [hl] at hs; cases hs
  | some ss =>
    rw [hl] at hs
    simp [hg _ (mem_of_lookup hl) s hs]

theorem unserCDXn_total (nils : List String) (b : Cdx.Bom) :
    ∃ d, unserCDXn nils b = .ok d ∧ d.metadata.isSome = true ∧ d.nodeList.isSome = true := by
  unfold unserCDXn
  rw [unguarded_none cdxSites cdx_sites_guarded nils]
  exact ⟨_, rfl, rfl, rfl⟩

theorem unserSPDXn_total (nils : List String) (d0 : Spdx.Doc) :
    ∃ d, unserSPDXn nils d0 = .ok d ∧ d.metadata.isSome = true ∧ d.nodeList.isSome = true := by
  unfold unserSPDXn
  rw [unguarded_none spdxSites spdx_sites_guarded nils]
  exact ⟨_, rfl, rfl, rfl⟩

/-- "exactly one of a complete document or an error" -/
def Total (o : Outcome Document) : Prop :=
  o = .err ∨ ∃ d, o = .ok d ∧ d.metadata.isSome = true ∧ d.nodeList.isSome = true

theorem parseCDX_total (c : Decoded Cdx.Bom) (hc : c ≠ .panic) : Total (parseCDX c) := by
  cases c with
  | ok nils b => exact Or.inr (unserCDXn_total nils b)
  | err => exact Or.inl rfl
  | panic => exact absurd rfl hc

/-- SPDX: even a panic inside the third-party decoder becomes an error -/
theorem parseSPDX_total (s : Decoded Spdx.Doc) : Total (parseSPDX s) := by
  cases s with
  | ok nils d => exact Or.inr (unserSPDXn_total nils d)
  | err => exact Or.inl rfl
  | panic =>
    left
    unfold parseSPDX
    rw [recover_guarded]; rfl

theorem Total.bind {α} {o : Outcome α} {g : α → Outcome Document}
    (ho : o.isPanic = false) (hg : ∀ a, Total (g a)) : Total (o.bind g) := by
  cases o with
  | ok f => exact hg f
  | err => exact Or.inl rfl
  | panic _ => cases ho

/-- the whole parse path: detection, dispatch, decoding, conversion. The only assumption is that
    cyclonedx-go's decoder itself does not panic (it runs outside any recover). -/
theorem parse_total (i : Sniff.Input) (explicit : Option Sniff.Format) (c : Decoded Cdx.Bom)
    (s : Decoded Spdx.Doc) (hc : ∀ (h : c = .panic), False) : Total (parse i explicit c s) := by
  unfold parse
  refine Total.bind ?_ fun f => ?_
  · cases explicit with
    | none => exact Sniff.sniffReader_not_panic i
    | some f =>
      dsimp only
      split
      · exact Sniff.sniffReader_not_panic i
      · rfl
  · split
    · exact parseCDX_total c hc
    · exact parseSPDX_total s
    · exact Or.inl rfl

/-- with an explicit (non-empty) format the outcome does not depend on the detection input -/
theorem parse_explicit_ignores_input (i i' : Sniff.Input) (f : Sniff.Format) (hf : f ≠ "")
    (c : Decoded Cdx.Bom) (s : Decoded Spdx.Doc) : parse i (some f) c s = parse i' (some f) c s := by
  unfold parse
  simp only [if_neg hf]

/-- auto-detection and the explicit statement of the detected format agree -/
theorem parse_auto_eq_explicit (i : Sniff.Input) (f : Sniff.Format) (hf : f ≠ "")
    (hs : (Sniff.sniffReader i).1 = .ok f) (c : Decoded Cdx.Bom) (s : Decoded Spdx.Doc) :
    parse i none c s = parse i (some f) c s := by
  unfold parse
  simp only [if_neg hf, hs]

/-- `guardPresent` is not constantly true: a guard the extractor does not find in the source is reported missing -/
example : guardPresent ⟨"unserializers.CDX.componentToNode", "c.Supplier"⟩ = false := by decide +kernel
/-- test vector: a CycloneDX document decoded with nil metadata and nil licences is parsed without a panic -/
example : (parse ⟨some ⟨"CycloneDX", "1.4", ""⟩, []⟩ none (.ok ["BOM.Metadata", "Component.Licenses"] {}) .err).isPanic = false := by decide +kernel

end Protobom.C04
